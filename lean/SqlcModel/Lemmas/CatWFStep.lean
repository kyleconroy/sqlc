import SqlcModel.Lemmas.CatWF
/-
Every statement of the reference semantics preserves catalog well-formedness.
-/
namespace Sqlc.C08
open Sqlc.Cat Sqlc.Spec

theorem wf_mapSchema_found {c : Catalog} {n : String} {s : Schema} {f : Schema → Schema} (h : WF c)
    (hs : Pg.schemaOf c n = some s) (hn : (f s).name = s.name) (hw : WFSchema (f s)) : WF (Pg.mapSchema c n f) :=
  wf_mapSchema h fun s' hs' => by cases hs.symm.trans hs'; exact ⟨hn, hw⟩

theorem wfSchema_mapRel_found {s : Schema} {n : String} {t : Table} {f : Table → Table} (h : WFSchema s)
    (ht : Pg.relOf s n = some t) (hn : (f t).name = t.name) (hw : WFTable (f t)) : WFSchema (Pg.mapRel s n f) :=
  wfSchema_mapRel h fun t' ht' => by cases ht.symm.trans ht'; exact ⟨hn, hw⟩

theorem wfSchema_mapType_found {s : Schema} {n : String} {t : Ty} {f : Ty → Ty} (h : WFSchema s)
    (ht : Pg.typeOf s n = some t) (hn : (f t).name = t.name) (hw : WFTy (f t)) : WFSchema (Pg.mapType s n f) :=
  wfSchema_mapType h fun t' ht' => by cases ht.symm.trans ht'; exact ⟨hn, hw⟩

theorem relOf_name {s : Schema} {n : String} {t : Table} (h : Pg.relOf s n = some t) : t.name = n :=
  beq_iff_eq.mp (List.find?_some (p := fun t : Table => t.name == n) h)

/-- one ALTER TABLE command keeps the table well formed and its name -/
theorem alterCmd_ok {t t' : Table} {cmd : AlterCmd} (h : WFTable t) (hr : Pg.alterCmd t cmd = .ok t') :
    WFTable t' ∧ t'.name = t.name := by
  cases cmd with
  | add d g =>
    simp only [Pg.alterCmd] at hr
    split at hr
    · split at hr <;> cases hr
      exact ⟨h, rfl⟩
    · next hc =>
      cases hr
      exact ⟨nodup_append_fresh Column.name h (Bool.eq_false_iff.mpr hc), rfl⟩
  | drop col g =>
    simp only [Pg.alterCmd] at hr
    split at hr
    · cases hr
      exact ⟨nodup_filter_keys _ _ h, rfl⟩
    · split at hr <;> cases hr
      exact ⟨h, rfl⟩
  | setType col _ _ _ | setNotNull col | dropNotNull col =>
    simp only [Pg.alterCmd] at hr
    split at hr <;> cases hr
    exact ⟨wfTable_mapCol_same col _ h fun _ => rfl, rfl⟩

theorem alterCmds_ok {t t' : Table} {cmds : List AlterCmd} (h : WFTable t) (hr : cmds.foldlM Pg.alterCmd t = .ok t') :
    WFTable t' ∧ t'.name = t.name :=
  foldlM_invariant (fun t' => WFTable t' ∧ t'.name = t.name)
    (fun _ _ _ h1 h2 => ⟨(alterCmd_ok h1.1 h2).1, (alterCmd_ok h1.1 h2).2.trans h1.2⟩) cmds ⟨h, rfl⟩ hr

theorem wf_dropSchemaStep {g : Bool} {c c' : Catalog} {n : String} (h : WF c)
    (hr : Pg.dropSchemaStep g c n = .ok c') : WF c' := by
  simp only [Pg.dropSchemaStep] at hr
  split at hr
  · cases hr
    exact wf_filter_schemas _ h
  · split at hr <;> cases hr
    exact h

theorem wf_dropTableStep {g : Bool} {c c' : Catalog} {q : QName} (h : WF c)
    (hr : Pg.dropTableStep g c q = .ok c') : WF c' := by
  simp only [Pg.dropTableStep] at hr
  split at hr
  · split at hr <;> cases hr
    exact h
  · split at hr
    · cases hr
      exact wf_mapSchema h fun s' hs' => ⟨rfl, wfSchema_filter_tables _ (h.schema hs')⟩
    · split at hr <;> cases hr
      exact h

theorem wf_dropTypeStep {g : Bool} {c c' : Catalog} {q : QName} (h : WF c)
    (hr : Pg.dropTypeStep g c q = .ok c') : WF c' := by
  simp only [Pg.dropTypeStep] at hr
  split at hr
  · split at hr <;> cases hr
    exact h
  · split at hr
    · cases hr
      exact wf_mapSchema h fun s' hs' => ⟨rfl, wfSchema_filter_types _ (h.schema hs')⟩
    · split at hr <;> cases hr
      exact h

/-- every statement of the reference semantics preserves well-formedness -/
theorem wf_step (c c' : Catalog) (op : DDL) (h : WF c) (hr : Pg.step c op = .ok c') : WF c' := by
  cases op with
  | createSchema n g =>
    simp only [Pg.step] at hr
    split at hr
    · split at hr <;> cases hr
      exact h
    · next hs =>
      cases hr
      exact wf_append_schema h (Bool.eq_false_iff.mpr hs)
  | dropSchema names g => exact foldlM_invariant WF (fun _ _ _ => wf_dropSchemaStep) names h hr
  | dropTable rels g => exact foldlM_invariant WF (fun _ _ _ => wf_dropTableStep) rels h hr
  | dropType tys g => exact foldlM_invariant WF (fun _ _ _ => wf_dropTypeStep) tys h hr
  | createTable q g cols =>
    simp only [Pg.step] at hr
    split at hr
    · cases hr
    · next s hs =>
      split at hr
      · split at hr <;> cases hr
        exact h
      · next h1 =>
        cases h2 : Pg.hasType s q.name <;> cases h3 : Pg.distinct (cols.map (·.name)) <;> simp [h2, h3] at hr
        subst hr
        exact wf_mapSchema_found h hs rfl
          (wfSchema_append_table (h.schema hs) (Bool.eq_false_iff.mpr h1) (wfTable_mkColumns h3))
  | renameTable q n =>
    simp only [Pg.step] at hr
    split at hr
    · cases hr
    · next s hs =>
      cases h0 : Pg.hasRel s q.name <;> cases h1 : Pg.hasRel s n <;> cases h2 : Pg.hasType s n <;>
        simp [h0, h1, h2] at hr
      subst hr
      exact wf_mapSchema_found h hs rfl (wfSchema_rename_table q.name n (h.schema hs) h1)
  | setSchema q n =>
    simp only [Pg.step] at hr
    split at hr
    · cases hr
    · next s hs =>
      split at hr
      · cases hr
      · next t ht =>
        split at hr
        · cases hr
        · next s2 hs2 =>
          cases h1 : Pg.hasRel s2 q.name <;> cases h2 : Pg.hasType s2 q.name <;> simp [h1, h2] at hr
          subst hr
          -- first the table leaves its schema; the target schema (even if it is the same one) then has no
          -- relation of that name
          have hc1 : WF (Pg.mapSchema c (ns c q) fun s => { s with tables := s.tables.filter (·.name != q.name) }) :=
            wf_mapSchema h fun s' hs' => ⟨rfl, wfSchema_filter_tables _ (h.schema hs')⟩
          refine wf_mapSchema hc1 fun s' hs' => ⟨rfl, wfSchema_append_table (hc1.schema hs') ?_ ((h.schema hs).table ht)⟩
          rw [relOf_name ht]
          obtain ⟨s0, hs0, rfl⟩ := List.mem_map.mp (List.mem_of_find?_eq_some hs')
          have hn : (s0.name == n) = true := by
            have := List.find?_some hs'
            split at this <;> exact this
          split
          · simp [Pg.hasRel, List.any_filter]
          · rw [← h1, eq_of_find?_of_key Schema.name n h.1 hs2 hs0 hn]
  | alterTable q cmds =>
    simp only [Pg.step] at hr
    split at hr
    · cases hr; exact h
    · split at hr
      · cases hr
      · next s hs =>
        split at hr
        · cases hr
        · next t ht =>
          cases hf : cmds.foldlM Pg.alterCmd t with
          | error e => simp [hf, Except.map] at hr
          | ok t' =>
            simp [hf, Except.map] at hr
            subst hr
            have ht' := alterCmds_ok ((h.schema hs).table ht) hf
            exact wf_mapSchema_found h hs rfl (wfSchema_mapRel_found (h.schema hs) ht ht'.2 ht'.1)
  | renameColumn q col n =>
    simp only [Pg.step] at hr
    split at hr
    · cases hr
    · next s hs =>
      split at hr
      · cases hr
      · next t ht =>
        cases h1 : Pg.hasCol t n <;> cases h2 : Pg.hasCol t col <;> simp [h1, h2] at hr
        subst hr
        exact wf_mapSchema_found h hs rfl
          (wfSchema_mapRel_found (h.schema hs) ht rfl (wfTable_rename_col col n ((h.schema hs).table ht) h1))
  | createEnum q vs =>
    simp only [Pg.step] at hr
    split at hr
    · cases hr
    · next s hs =>
      cases h1 : Pg.hasRel s q.name <;> cases h2 : Pg.hasType s q.name <;> cases h3 : Pg.distinct vs <;>
        simp [h1, h2, h3] at hr
      subst hr
      exact wf_mapSchema_found h hs rfl
        (wfSchema_append_type (t := .enum q.name vs "") (h.schema hs) h2 (distinct_nodup vs h3))
  | createComposite q =>
    simp only [Pg.step] at hr
    split at hr
    · cases hr
    · next s hs =>
      cases h1 : Pg.hasRel s q.name <;> cases h2 : Pg.hasType s q.name <;> simp [h1, h2] at hr
      subst hr
      exact wf_mapSchema_found h hs rfl (wfSchema_append_type (t := .composite q.name "") (h.schema hs) h2 trivial)
  | addValue q v g p =>
    simp only [Pg.step] at hr
    split at hr
    · cases hr
    · next s hs =>
      split at hr
      · cases hr
      · cases hr
      · next en vals cm ht =>
        have hv : vals.Nodup := (h.schema hs).type ht
        cases hc : vals.contains v with
        | true =>
          simp only [hc, if_true] at hr
          split at hr <;> cases hr
          exact h
        | false =>
          simp only [hc, Bool.false_eq_true, if_false] at hr
          split at hr
          · cases hr
          · next i _ =>
            cases hr
            exact wf_mapSchema_found h hs rfl
              (wfSchema_mapType_found (h.schema hs) ht rfl (nodup_insert_fresh i hv hc))
  | renameValue q a b =>
    simp only [Pg.step] at hr
    split at hr
    · cases hr
    · next s hs =>
      split at hr
      · cases hr
      · cases hr
      · next en vals cm ht =>
        cases h1 : vals.contains a <;> cases h2 : vals.contains b <;>
          simp only [h1, h2, Bool.not_true, Bool.not_false, Bool.false_eq_true, if_true, if_false, reduceCtorEq] at hr
        cases hr
        exact wf_mapSchema_found h hs rfl
          (wfSchema_mapType_found (h.schema hs) ht rfl (nodup_rename_label a b ((h.schema hs).type ht) h2))
  | commentSchema n t =>
    simp only [Pg.step] at hr
    split at hr <;> cases hr
    exact wf_mapSchema h fun s' hs' => ⟨rfl, show WFSchema s' from h.schema hs'⟩
  | commentTable q t =>
    simp only [Pg.step] at hr
    split at hr
    · cases hr
    · split at hr <;> cases hr
      exact wf_mapSchema h fun s' hs' => ⟨rfl, wfSchema_mapRel (h.schema hs') fun t ht => ⟨rfl, show WFTable t from (h.schema hs').table ht⟩⟩
  | commentColumn q col t =>
    simp only [Pg.step] at hr
    split at hr
    · cases hr
    · split at hr
      · cases hr
      · split at hr <;> cases hr
        exact wf_mapSchema h fun s' hs' => ⟨rfl, wfSchema_mapRel (h.schema hs') fun t ht =>
          ⟨rfl, wfTable_mapCol_same col _ ((h.schema hs').table ht) fun _ => rfl⟩⟩
  | commentType q t =>
    simp only [Pg.step] at hr
    split at hr
    · cases hr
    · split at hr <;> cases hr
      exact wf_mapSchema h fun s' hs' => ⟨rfl, wfSchema_mapType (h.schema hs') fun t ht =>
        ⟨by cases t <;> rfl, by have := (h.schema hs').type ht; cases t <;> exact this⟩⟩

end Sqlc.C08
