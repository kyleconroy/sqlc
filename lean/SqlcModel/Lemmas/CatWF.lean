import SqlcModel.Catalog.Model
import SqlcModel.Spec.PgCatalog
import SqlcModel.Lemmas.ListKey
/-
The catalog well-formedness invariant (names unique per namespace) and its preservation by the set-like primitives
of the reference semantics, level by level: labels of an enum, columns of a table, tables and types of a schema,
schemas of a catalog.
-/
namespace Sqlc.C08
open Sqlc.Cat Sqlc.Spec

def WFTable (t : Table) : Prop := (t.cols.map (·.name)).Nodup
def WFTy : Ty → Prop
  | .enum _ vs _ => vs.Nodup
  | .composite _ _ => True
def WFSchema (s : Schema) : Prop :=
  (s.tables.map (·.name)).Nodup ∧ (s.types.map Ty.name).Nodup ∧
  (∀ t ∈ s.tables, WFTable t) ∧ (∀ t ∈ s.types, WFTy t)
def WF (c : Catalog) : Prop := (c.schemas.map (·.name)).Nodup ∧ ∀ s ∈ c.schemas, WFSchema s

theorem WFSchema.tableNames {s : Schema} (h : WFSchema s) : (s.tables.map (·.name)).Nodup := h.1
theorem WFSchema.typeNames {s : Schema} (h : WFSchema s) : (s.types.map Ty.name).Nodup := h.2.1

/-- what a successful lookup returns is well formed -/
theorem WF.schema {c : Catalog} {n : String} {s : Schema} (h : WF c) (hs : Pg.schemaOf c n = some s) : WFSchema s :=
  h.2 s (List.mem_of_find?_eq_some hs)
theorem WFSchema.table {s : Schema} {n : String} {t : Table} (h : WFSchema s) (ht : Pg.relOf s n = some t) : WFTable t :=
  h.2.2.1 t (List.mem_of_find?_eq_some ht)
theorem WFSchema.type {s : Schema} {n : String} {t : Ty} (h : WFSchema s) (ht : Pg.typeOf s n = some t) : WFTy t :=
  h.2.2.2 t (List.mem_of_find?_eq_some ht)

/-! ### lists with distinct keys -/

section keys
variable {α : Type} (key : α → String)

theorem nodup_filter_keys (p : α → Bool) {l : List α} (h : (l.map key).Nodup) : ((l.filter p).map key).Nodup :=
  h.sublist (List.filter_sublist.map key)

theorem nodup_append_fresh {l : List α} {x : α} (h : (l.map key).Nodup)
    (hx : l.any (fun a => key a == key x) = false) : ((l ++ [x]).map key).Nodup := by
  rw [List.map_append, List.nodup_append]
  refine ⟨h, List.nodup_cons.mpr ⟨List.not_mem_nil, List.nodup_nil⟩, ?_⟩
  intro k hk k' hk'
  obtain ⟨a, ha, rfl⟩ := List.mem_map.mp hk
  obtain rfl : k' = key x := by simpa using hk'
  simpa using List.any_eq_false.mp hx a ha

/-- updating the element with key `n` (there is at most one: the one `find?` returns) by something that keeps its key
and a property `Q` keeps the keys distinct and `Q` everywhere -/
theorem map_if_wf (n : String) (f : α → α) {Q : α → Prop} {l : List α} (hnd : (l.map key).Nodup) (hQ : ∀ a ∈ l, Q a)
    (hf : ∀ a, l.find? (fun a => key a == n) = some a → key (f a) = key a ∧ Q (f a)) :
    ((l.map (fun a => if key a == n then f a else a)).map key).Nodup ∧
      ∀ a ∈ l.map (fun a => if key a == n then f a else a), Q a := by
  constructor
  · rw [List.map_map, List.map_congr_left (g := key)]
    · exact hnd
    · intro a ha
      simp only [Function.comp]
      split
      · next hk => exact (hf a (find?_of_mem_key key n hnd ha hk)).1
      · rfl
  · intro a' ha'
    obtain ⟨a, ha, rfl⟩ := List.mem_map.mp ha'
    split
    · next hk => exact (hf a (find?_of_mem_key key n hnd ha hk)).2
    · exact hQ a ha

/-- giving the element with key `old` a key that no element has keeps the keys distinct -/
theorem nodup_rename (old new : String) (g : α → α) (hg : ∀ a, key (g a) = new) {l : List α}
    (hnd : (l.map key).Nodup) (hfresh : l.any (fun a => key a == new) = false) :
    ((l.map (fun a => if key a == old then g a else a)).map key).Nodup := by
  have hne : ∀ a ∈ l, key a ≠ new := by simpa using hfresh
  rw [List.map_map, List.Nodup, List.pairwise_map]
  refine (List.pairwise_map.mp hnd).imp_of_mem fun {a b} ha hb hab => ?_
  simp only [Function.comp]
  split
  · next ha' =>
    split
    · next hb' => exact absurd ((beq_iff_eq.mp ha').trans (beq_iff_eq.mp hb').symm) hab
    · rw [hg]; exact (hne b hb).symm
  · split
    · rw [hg]; exact hne a ha
    · exact hab

end keys

/-- a fold that stops at the first error keeps whatever every step keeps -/
theorem foldlM_invariant {σ α ε : Type} {f : σ → α → Except ε σ} (P : σ → Prop)
    (hf : ∀ c a c', P c → f c a = .ok c' → P c') :
    ∀ (l : List α) {c c' : σ}, P c → l.foldlM f c = .ok c' → P c'
  | [], c, c', h, hr => by cases hr; exact h
  | a :: as, c, c', h, hr => by
    rw [List.foldlM_cons] at hr
    cases h1 : f c a with
    | error e => rw [h1] at hr; cases hr
    | ok c1 => rw [h1] at hr; exact foldlM_invariant P hf as (hf c a c1 h h1) hr

/-! ### enum labels -/

theorem distinct_nodup : ∀ (l : List String), Pg.distinct l = true → l.Nodup
  | [], _ => List.nodup_nil
  | a :: as, h => by
    simp only [Pg.distinct, Bool.and_eq_true, Bool.not_eq_eq_eq_not, Bool.not_true, List.contains_eq_mem,
      decide_eq_false_iff_not] at h
    exact List.nodup_cons.mpr ⟨h.1, distinct_nodup as h.2⟩

theorem nodup_insert_fresh {l : List String} (i : Nat) {v : String} (h : l.Nodup) (hv : l.contains v = false) :
    (l.take i ++ v :: l.drop i).Nodup := by
  rw [List.perm_middle.nodup_iff, List.take_append_drop]
  exact List.nodup_cons.mpr ⟨by simpa using hv, h⟩

theorem nodup_rename_label {l : List String} (old new : String) (h : l.Nodup) (hn : l.contains new = false) :
    (l.map (fun v => if v == old then new else v)).Nodup := by
  simpa using nodup_rename id old new (fun _ => new) (fun _ => rfl) (by rwa [List.map_id]) (by simpa only [id, List.any_beq'] using hn)

/-! ### columns of a table -/

theorem wfTable_mapCol_same {t : Table} (n : String) (f : Column → Column) (h : WFTable t)
    (hf : ∀ c, (f c).name = c.name) : WFTable (Pg.mapCol t n f) :=
  (map_if_wf Column.name n f (Q := fun _ => True) h (fun _ _ => trivial) fun c _ => ⟨hf c, trivial⟩).1

theorem wfTable_rename_col {t : Table} (old new : String) (h : WFTable t) (hfresh : Pg.hasCol t new = false) :
    WFTable (Pg.mapCol t old (fun c => { c with name := new })) :=
  nodup_rename Column.name old new _ (fun _ => rfl) h hfresh

theorem wfTable_mkColumns {rs n : String} {cols : List ColDef} (h : Pg.distinct (cols.map (·.name)) = true) :
    WFTable { relSchema := rs, name := n, cols := cols.map mkColumn } := by
  unfold WFTable
  rw [List.map_map]
  exact distinct_nodup _ h

/-! ### tables and types of a schema -/

theorem wfSchema_append_table {s : Schema} {t : Table} (h : WFSchema s) (hf : Pg.hasRel s t.name = false)
    (ht : WFTable t) : WFSchema { s with tables := s.tables ++ [t] } :=
  ⟨nodup_append_fresh Table.name h.1 hf, h.2.1,
   fun x hx => (List.mem_append.mp hx).elim (h.2.2.1 x) fun hx => by rw [List.mem_singleton.mp hx]; exact ht,
   h.2.2.2⟩

theorem wfSchema_append_type {s : Schema} {t : Ty} (h : WFSchema s) (hf : Pg.hasType s t.name = false)
    (ht : WFTy t) : WFSchema { s with types := s.types ++ [t] } :=
  ⟨h.1, nodup_append_fresh Ty.name h.2.1 hf, h.2.2.1,
   fun x hx => (List.mem_append.mp hx).elim (h.2.2.2 x) fun hx => by rw [List.mem_singleton.mp hx]; exact ht⟩

theorem wfSchema_filter_tables {s : Schema} (p : Table → Bool) (h : WFSchema s) :
    WFSchema { s with tables := s.tables.filter p } :=
  ⟨nodup_filter_keys _ p h.1, h.2.1, fun t ht => h.2.2.1 t (List.mem_filter.mp ht).1, h.2.2.2⟩

theorem wfSchema_filter_types {s : Schema} (p : Ty → Bool) (h : WFSchema s) :
    WFSchema { s with types := s.types.filter p } :=
  ⟨h.1, nodup_filter_keys _ p h.2.1, h.2.2.1, fun t ht => h.2.2.2 t (List.mem_filter.mp ht).1⟩

/-- updating the table named `n` (the one the lookup finds) by something that keeps its name and its well-formedness -/
theorem wfSchema_mapRel {s : Schema} {n : String} {f : Table → Table} (h : WFSchema s)
    (hf : ∀ t, Pg.relOf s n = some t → (f t).name = t.name ∧ WFTable (f t)) : WFSchema (Pg.mapRel s n f) :=
  have := map_if_wf Table.name n f h.1 h.2.2.1 hf
  ⟨this.1, h.2.1, this.2, h.2.2.2⟩

theorem wfSchema_mapType {s : Schema} {n : String} {f : Ty → Ty} (h : WFSchema s)
    (hf : ∀ t, Pg.typeOf s n = some t → (f t).name = t.name ∧ WFTy (f t)) : WFSchema (Pg.mapType s n f) :=
  have := map_if_wf Ty.name n f h.2.1 h.2.2.2 hf
  ⟨h.1, this.1, h.2.2.1, this.2⟩

theorem wfSchema_rename_table {s : Schema} (old new : String) (h : WFSchema s) (hfresh : Pg.hasRel s new = false) :
    WFSchema (Pg.mapRel s old (fun t => { t with name := new })) := by
  refine ⟨nodup_rename Table.name old new _ (fun _ => rfl) h.1 hfresh, h.2.1, ?_, h.2.2.2⟩
  intro t ht
  obtain ⟨t0, ht0, rfl⟩ := List.mem_map.mp ht
  split <;> exact h.2.2.1 t0 ht0

/-! ### schemas of a catalog -/

theorem wf_filter_schemas {c : Catalog} (p : Schema → Bool) (h : WF c) :
    WF { c with schemas := c.schemas.filter p } :=
  ⟨nodup_filter_keys _ p h.1, fun s hs => h.2 s (List.mem_filter.mp hs).1⟩

theorem wf_append_schema {c : Catalog} {n : String} (h : WF c) (hfresh : Pg.hasSchema c n = false) :
    WF { c with schemas := c.schemas ++ [{ name := n }] } :=
  ⟨nodup_append_fresh Schema.name h.1 hfresh,
   fun s hs => (List.mem_append.mp hs).elim (h.2 s) fun hs => by
     rw [List.mem_singleton.mp hs]
     exact ⟨List.nodup_nil, List.nodup_nil, nofun, nofun⟩⟩

/-- updating the schema named `n` (the one the lookup finds) by something that keeps its name and its
well-formedness -/
theorem wf_mapSchema {c : Catalog} {n : String} {f : Schema → Schema} (h : WF c)
    (hf : ∀ s, Pg.schemaOf c n = some s → (f s).name = s.name ∧ WFSchema (f s)) : WF (Pg.mapSchema c n f) :=
  map_if_wf Schema.name n f h.1 h.2 hf

end Sqlc.C08
