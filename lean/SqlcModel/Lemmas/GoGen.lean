import SqlcModel.GoGen.Query
/-
Lemmas about the definitions of GoGen. What the loop of columnsToStruct does to every column whatever names it has
seen: one field per column, typed by goType (what it does to the NAMES is C01's subject); what a lookup in a type-switch
table returns; goType without overrides.
-/
namespace Sqlc.GoGen

theorem c2sLoop_types (env : TypeEnv) (cols : List GoColumn) (i : Nat) (seen : List (String × Nat))
    (sfx : List (Nat × Nat)) :
    (c2sLoop env cols i seen sfx).map (·.type) = cols.map (fun c => goType env (toTypeColumn c.col)) := by
  induction cols generalizing i seen sfx with
  | nil => rfl
  | cons c cs ih => simp [c2sLoop, ih]

theorem c2sLoop_length (env : TypeEnv) (cols : List GoColumn) (i : Nat) (seen : List (String × Nat))
    (sfx : List (Nat × Nat)) : (c2sLoop env cols i seen sfx).length = cols.length := by
  simpa using congrArg List.length (c2sLoop_types env cols i seen sfx)

/-- `bump` and `setNat` have one shape, update the entries under the key or append a new one: an entry of
the result is an old one, an updated one or the new one -/
theorem mem_upsert {α : Type} {p : α → Bool} {f : α → α} {a e : α} {m : List α}
    (h : e ∈ (if m.any p then m.map (fun x => if p x then f x else x) else m ++ [a])) :
    e ∈ m ∨ (∃ x ∈ m, e = f x) ∨ e = a := by
  split at h
  · obtain ⟨x, hx, rfl⟩ := List.mem_map.mp h
    split
    · exact .inr (.inl ⟨x, hx, rfl⟩)
    · exact .inl hx
  · rcases List.mem_append.mp h with h | h
    · exact .inl h
    · exact .inr (.inr (List.mem_singleton.mp h))

/-- `bump` brings in no key but the bumped one -/
theorem bump_fresh {m : List (String × Nat)} {k n : String} (hm : ∀ e ∈ m, e.1 ≠ n) (hk : k ≠ n) :
    ∀ e ∈ bump m k, e.1 ≠ n := by
  intro e he
  rcases mem_upsert he with h | ⟨x, hx, rfl⟩ | rfl
  · exact hm e h
  · exact hm x hx
  · exact hk

theorem setNat_vals {m : List (Nat × Nat)} {k v : Nat} (hm : ∀ e ∈ m, e.2 = v) : ∀ e ∈ setNat m k v, e.2 = v := by
  intro e he
  rcases mem_upsert he with h | ⟨x, _, rfl⟩ | rfl
  · exact hm e h
  · rfl
  · rfl

theorem lookupStr_of_fresh {m : List (String × Nat)} {k : String} (h : ∀ e ∈ m, e.1 ≠ k) : lookupStr m k = 0 := by
  rw [lookupStr, List.find?_eq_none.mpr fun e he => by simpa using h e he]
  rfl

theorem lookupNat_vals {m : List (Nat × Nat)} {v : Nat} (k : Nat) (hm : ∀ e ∈ m, e.2 = v) :
    lookupNat m k = none ∨ lookupNat m k = some v := by
  unfold lookupNat
  cases hf : m.find? (·.1 == k) with
  | none => exact .inl rfl
  | some e => exact .inr (congrArg some (hm e (List.mem_of_find?_eq_some hf)))

/-- a successful lookup returns the results of an arm that lists the name -/
theorem lookupArm_some {arms : List (List String × String × String)} {n : String} {r : String × String}
    (h : lookupArm arms n = some r) : ∃ arm ∈ arms, n ∈ arm.1 ∧ arm.2 = r := by
  obtain ⟨arm, hf, rfl⟩ := Option.map_eq_some_iff.mp h
  exact ⟨arm, List.mem_of_find?_eq_some hf, by simpa using List.find?_some hf, rfl⟩

/-- PostgreSQL without overrides: goType is postgresType, as a slice for arrays -/
theorem goType_pg_plain (env : TypeEnv) (col : Column) (hpg : env.engine = "postgresql") (hov : env.overrides = []) :
    goType env col = if col.isArray then Gen.arrayPrefix ++ postgresType env col else postgresType env col := by
  simp [goType, columnOverride, goInnerType, dbTypeOverride, hov, hpg]

end Sqlc.GoGen
