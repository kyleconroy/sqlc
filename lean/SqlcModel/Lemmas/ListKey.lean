import SqlcModel.Catalog.Model
import SqlcModel.Lemmas.List
/-
The Go code's slice idioms (update the first match, splice at the index of the first match, remember the last match)
against the set-like `map` / `filter` of the reference semantics. Splicing at an index is first reduced to a first-match
operation, which needs no hypothesis; only the step from "the first match" to "every match" needs the keys of the list
to be pairwise distinct.
-/
namespace Sqlc.Cat

/-! ### index of the first match ↦ first match -/

theorem modify_findIdx? {α : Type} {p : α → Bool} (f : α → α) :
    ∀ {l : List α} {i : Nat}, l.findIdx? p = some i → l.modify i f = modifyFirst p f l
  | [], _, h => by simp at h
  | a :: as, i, h => by
    rw [List.findIdx?_cons] at h
    unfold modifyFirst
    split at h
    · next ha => cases h; simp [ha]
    · next ha =>
      obtain ⟨j, hj, rfl⟩ := Option.map_eq_some_iff.mp h
      simp [ha, modify_findIdx? f hj]

theorem eraseIdx_findIdx? {α : Type} {p : α → Bool} {l : List α} {i : Nat} (h : l.findIdx? p = some i) :
    l.eraseIdx i = l.eraseP p := by
  rw [List.eraseP_eq_eraseIdx, h]

/-! ### first match ↦ every match, under distinct keys -/

theorem findIdx?_none_iff_find?_none {α : Type} (p : α → Bool) (l : List α) :
    l.findIdx? p = none ↔ l.find? p = none := by
  rw [List.findIdx?_eq_none_iff, List.find?_eq_none]
  simp

theorem map_if_none {α : Type} (key : α → String) (n : String) (g : α → α)
    (l : List α) (hf : l.find? (fun a => key a == n) = none) :
    l.map (fun a => if key a == n then g a else a) = l := by
  rw [List.map_congr_left (g := id), List.map_id]
  intro a ha
  simp [List.find?_eq_none.mp hf a ha]

section distinct
variable {α : Type} (key : α → String) (n : String)

/-- the one place distinctness is used: once the head has key `n`, nothing in the tail has -/
theorem find?_tail_none {a : α} {as : List α} (h : ((a :: as).map key).Nodup) (ha : (key a == n) = true) :
    as.find? (fun b => key b == n) = none := by
  rw [List.find?_eq_none]
  intro b hb hbn
  apply (List.nodup_cons.mp h).1
  rw [beq_iff_eq.mp ha, ← beq_iff_eq.mp hbn]
  exact List.mem_map_of_mem hb

theorem modifyFirst_eq_map (f : α → α) : ∀ (l : List α), (l.map key).Nodup →
    modifyFirst (fun a => key a == n) f l = l.map (fun a => if key a == n then f a else a)
  | [], _ => rfl
  | a :: as, h => by
    unfold modifyFirst
    split
    · next ha => simp only [List.map_cons, ha, if_true, map_if_none key n f as (find?_tail_none key n h ha)]
    · next ha => simp only [List.map_cons, ha, modifyFirst_eq_map f as (List.nodup_cons.mp h).2]; rfl

theorem eraseP_eq_filter : ∀ (l : List α), (l.map key).Nodup →
    l.eraseP (fun a => key a == n) = l.filter (fun a => key a != n)
  | [], _ => rfl
  | a :: as, h => by
    by_cases ha : (key a == n) = true
    · have hnone := List.find?_eq_none.mp (find?_tail_none key n h ha)
      simp only [List.eraseP_cons, List.filter_cons, bne, ha, cond_true, Bool.not_true, Bool.false_eq_true, if_false]
      exact (List.filter_eq_self.mpr fun b hb => by simpa using hnone b hb).symm
    · simp [bne, ha, eraseP_eq_filter as (List.nodup_cons.mp h).2]

/-- the found element is the only one with that key -/
theorem eq_of_find?_of_key {l : List α} {x a : α} (hnd : (l.map key).Nodup) (h : l.find? (fun a => key a == n) = some x)
    (ha : a ∈ l) (hk : (key a == n) = true) : a = x :=
  List.inj_of_nodup_map hnd ha (List.mem_of_find?_eq_some h)
    ((beq_iff_eq.mp hk).trans (beq_iff_eq.mp (List.find?_some (p := fun a => key a == n) h)).symm)

theorem find?_of_mem_key {l : List α} {a : α} (hnd : (l.map key).Nodup) (ha : a ∈ l) (hk : (key a == n) = true) :
    l.find? (fun a => key a == n) = some a := by
  cases hr : l.find? (fun a => key a == n) with
  | none => exact absurd hk (List.find?_eq_none.mp hr a ha)
  | some x => rw [eq_of_find?_of_key key n hnd hr ha hk]

/-- so a map-if over a key depends on the function only through its value at the found element -/
theorem map_if_congr_found (g1 g2 : α → α) {l : List α} {x : α} (hnd : (l.map key).Nodup)
    (hf : l.find? (fun a => key a == n) = some x) (hg : g1 x = g2 x) :
    l.map (fun a => if key a == n then g1 a else a) = l.map (fun a => if key a == n then g2 a else a) := by
  apply List.map_congr_left
  intro a ha
  split
  · next hk => rw [eq_of_find?_of_key key n hnd hf ha hk, hg]
  · rfl

theorem lastIdx_go_eq (p : α → Bool) : ∀ (l : List α) (i : Nat) (acc : Option Nat),
    l.find? p = none → lastIdx?.go p l i acc = acc
  | [], _, _, _ => rfl
  | a :: as, i, acc, h => by
    rw [List.find?_cons] at h
    split at h
    · cases h
    · next ha => simp only [lastIdx?.go, ha, Bool.false_eq_true, if_false, lastIdx_go_eq p as (i + 1) acc h]

/-- with distinct keys the last match is the first -/
theorem lastIdx_eq_findIdx (l : List α) (h : (l.map key).Nodup) :
    lastIdx? (fun a => key a == n) l = l.findIdx? (fun a => key a == n) := by
  suffices ∀ (l : List α) (i : Nat), (l.map key).Nodup →
      lastIdx?.go (fun a => key a == n) l i none = (l.findIdx? (fun a => key a == n)).map (· + i) by
    simpa [lastIdx?] using this l 0 h
  intro l
  induction l with
  | nil => intro _ _; rfl
  | cons a as ih =>
    intro i h
    rw [lastIdx?.go, List.findIdx?_cons]
    split
    · next ha => simp [lastIdx_go_eq _ as (i + 1) (some i) (find?_tail_none key n h ha)]
    · rw [ih (i + 1) (List.nodup_cons.mp h).2]
      simp [Option.map_map, Function.comp_def, Nat.add_assoc, Nat.add_comm 1 i]

end distinct

end Sqlc.Cat
