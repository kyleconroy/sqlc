import SqlcModel.Query.Analyze
/-
Name resolution in internal/compiler (outputColumnRefs, the star arms of outputColumns and expandStmt,
resolveCompare): the verdict on a list of hits, and the hits themselves as a `map` over the catalog columns a
name matches.
-/
namespace Sqlc.Q

/-! ### the verdict on a list of hits -/

/-- Unique-match resolution, the rule `outputColumnRefs` and `resolveCompare` share: a name with no hit does not
exist, one with two or more is ambiguous. -/
def uniqueHit {α : Type} (what : String) : List α → Res (List α)
  | [] => .error s!"42703:notexist:{what}"
  | [x] => .ok [x]
  | _ :: _ :: _ => .error s!"42703:ambiguous:{what}"

variable {α : Type} {what : String} {l : List α}

/-- the rule as the Go code writes it, by `len(found)` -/
theorem uniqueHit_eq_ite (what : String) (l : List α) :
    uniqueHit what l = if l.length == 0 then .error s!"42703:notexist:{what}"
      else if l.length > 1 then .error s!"42703:ambiguous:{what}" else .ok l := by
  rcases l with _ | ⟨x, _ | ⟨y, r⟩⟩ <;> simp [uniqueHit]

theorem uniqueHit_eq_ok_iff {r : List α} : uniqueHit what l = .ok r ↔ r = l ∧ r.length = 1 := by
  rcases l with _ | ⟨x, _ | ⟨y, l⟩⟩ <;> simp +contextual [uniqueHit, eq_comm]

theorem uniqueHit_isOk_iff : (∃ r, uniqueHit what l = .ok r) ↔ l.length = 1 := by
  simp [uniqueHit_eq_ok_iff]

theorem uniqueHit_of_length_eq_zero (h : l.length = 0) : uniqueHit what l = .error s!"42703:notexist:{what}" := by
  rw [List.length_eq_zero_iff.mp h]; rfl

theorem uniqueHit_of_one_lt_length (h : 1 < l.length) : uniqueHit what l = .error s!"42703:ambiguous:{what}" := by
  rcases l with _ | ⟨x, _ | ⟨y, r⟩⟩
  · simp at h
  · simp at h
  · rfl

theorem uniqueHit_total (what : String) (l : List α) :
    (∃ r, uniqueHit what l = .ok r) ∨ uniqueHit what l = .error s!"42703:notexist:{what}" ∨
      uniqueHit what l = .error s!"42703:ambiguous:{what}" := by
  rcases l with _ | ⟨x, _ | ⟨y, r⟩⟩
  · exact .inr (.inl rfl)
  · exact .inl ⟨_, rfl⟩
  · exact .inr (.inr rfl)

theorem outputColumnRefs_eq (res : Node) (tables : List Table) (node : Node) :
    outputColumnRefs res tables node = match refParts node with
      | none => .error s!"other:unknown number of fields: {((node.get "Fields").stringItems).length}"
      | some (alias, name) => uniqueHit name (refMatches ((res.get "Name").strOpt) tables alias name) := by
  unfold outputColumnRefs
  cases refParts node with
  | none => rfl
  | some p => exact (uniqueHit_eq_ite p.2 _).symm

theorem outputColumnRefs_of_parts (res : Node) (tables : List Table) {node : Node} {alias name : String}
    (hp : refParts node = some (alias, name)) :
    outputColumnRefs res tables node = uniqueHit name (refMatches ((res.get "Name").strOpt) tables alias name) := by
  rw [outputColumnRefs_eq, hp]

theorem resolveCompare_eq (names : List (Nat × String)) (num : Nat) (key : String) (tm : List TypeMapEntry)
    (search : List TableName) :
    resolveCompare names num key tm search = uniqueHit key (compareMatches names num key tm search) :=
  (uniqueHit_eq_ite key _).symm

/-! ### the relations a qualifier selects, and the hits of a column reference in them -/

theorem flatMap_ite_nil {α β : Type} (l : List α) (p : α → Bool) (f : α → List β) :
    l.flatMap (fun a => if p a then [] else f a) = (l.filter (fun a => !p a)).flatMap f := by
  induction l with
  | nil => rfl
  | cons a l ih => cases h : p a <;> simp [h, ih]

/-- the tables in scope a qualifier selects: those of that name, all of them when there is no qualifier -/
def selected (tables : List Table) (q : String) : List Table := tables.filter (fun t => q == "" || t.rel.name == q)

theorem mem_selected {tables : List Table} {q : String} {t : Table} :
    t ∈ selected tables q ↔ t ∈ tables ∧ (q = "" ∨ t.rel.name = q) := by
  simp [selected]

theorem selected_empty (tables : List Table) : selected tables "" = tables := by
  simp [selected]

theorem selected_of_ne {q : String} (h : q ≠ "") (tables : List Table) :
    selected tables q = tables.filter (·.rel.name == q) := by
  simp [selected, beq_eq_false_iff_ne.mpr h]

/-- the catalog-derived columns a reference (alias, name) matches, before they are renamed for the result -/
def matched (tables : List Table) (alias name : String) : List Column :=
  (selected tables alias).flatMap (fun t => t.columns.filter (·.name == name))

theorem mem_matched {tables : List Table} {alias name : String} {c : Column} :
    c ∈ matched tables alias name ↔ ∃ t ∈ tables, (alias = "" ∨ t.rel.name = alias) ∧ c ∈ t.columns ∧ c.name = name := by
  simp [matched, mem_selected, and_assoc]

theorem refMatches_eq_map (rn : Option String) (tables : List Table) (alias name : String) :
    refMatches rn tables alias name = (matched tables alias name).map (fun c =>
      ({ name := rn.getD c.name, table := c.table, dataType := c.dataType, notNull := c.notNull, isArray := c.isArray } : Column)) := by
  unfold refMatches matched selected
  rw [flatMap_ite_nil, List.map_flatMap]
  simp [bne]

/-! ### the hits of a compared column -/

theorem compareMatches_length (names : List (Nat × String)) (num : Nat) (key : String) (tm : List TypeMapEntry)
    (search : List TableName) :
    (compareMatches names num key tm search).length =
      (search.filter (fun t => (typeMapLookup tm t.schema t.name key).isSome)).length := by
  simp [compareMatches, List.length_filterMap_eq_countP, List.countP_eq_length_filter]

/-- the (table, catalog column) pairs the comparison arm finds, table by table -/
def compareHits (key : String) (tm : List TypeMapEntry) (search : List TableName) : List (TableName × CatCol) :=
  search.filterMap (fun t => (typeMapLookup tm t.schema t.name key).map (fun cc => (t, cc)))

theorem compareMatches_eq_map (names : List (Nat × String)) (num : Nat) (key : String) (tm : List TypeMapEntry)
    (search : List TableName) :
    compareMatches names num key tm search =
      (compareHits key tm search).map (fun tc => compareParam names num key tc.1 tc.2) := by
  simp [compareMatches, compareHits, List.map_filterMap, Function.comp_def]

end Sqlc.Q
