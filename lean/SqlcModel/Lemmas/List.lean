/-
General facts about lists that core does not have.
-/
namespace List

/-- a key with pairwise distinct values on a list is injective on it -/
theorem inj_of_nodup_map {α β : Type} {f : α → β} {l : List α} (h : (l.map f).Nodup) :
    ∀ ⦃x⦄, x ∈ l → ∀ ⦃y⦄, y ∈ l → f x = f y → x = y :=
  have hp := pairwise_map.mp h
  Pairwise.forall_of_forall_of_flip (R := fun x y => f x = f y → x = y) (fun _ _ _ => rfl)
    (hp.imp fun hne e => absurd e hne) (hp.imp fun hne e => absurd e.symm hne)

/-- `takeWhile` stops inside the first part if something there fails the test -/
theorem takeWhile_append_of_mem {α : Type} {p : α → Bool} {l₁ l₂ : List α} {a : α} (ha : a ∈ l₁) (hp : p a = false) :
    (l₁ ++ l₂).takeWhile p = l₁.takeWhile p := by
  induction l₁ with
  | nil => cases ha
  | cons x xs ih =>
    rw [cons_append, takeWhile_cons, takeWhile_cons]
    split
    · rename_i hx
      rcases mem_cons.mp ha with rfl | h
      · rw [hp] at hx
        cases hx
      · rw [ih h]
    · rfl

end List
