/-
General facts that core does not state: which branch an `if` took, induction along a left fold with the consumed
prefix in view, congruence of `filterMap` / `takeWhile` on the members of a list, the pigeonhole step, and lists
sorted by a key with pairwise distinct values.
-/
namespace Sqlc

/-- an `if` equal to `y` took a branch that is -/
theorem ite_eq_cases {α : Type} {c : Prop} [Decidable c] {x r y : α} (h : (if c then x else r) = y) :
    (c ∧ x = y) ∨ (¬c ∧ r = y) := by
  split at h
  · exact .inl ⟨‹_›, h⟩
  · exact .inr ⟨‹_›, h⟩

/-- in a chain of early exits, a result that the exit cannot give comes from further down -/
theorem else_of_ite_eq {α : Type} {c : Prop} [Decidable c] {x r y : α} (h : (if c then x else r) = y)
    (hx : x ≠ y) : ¬c ∧ r = y :=
  (ite_eq_cases h).resolve_left fun h' => hx h'.2

/-- Induction along `List.foldl` for an invariant that speaks of the elements consumed so far. (Core's
`List.foldlRecOn` is the special case in which it does not.) -/
theorem foldl_prefix_induction {σ α : Type} (P : List α → σ → Prop) (f : σ → α → σ)
    (step : ∀ pre s a, P pre s → P (pre ++ [a]) (f s a)) (l pre : List α) (s : σ) (h : P pre s) :
    P (pre ++ l) (l.foldl f s) := by
  induction l generalizing pre s with
  | nil => simpa using h
  | cons a l ih => simpa using ih (pre ++ [a]) (f s a) (step pre s a h)

theorem nodup_concat {α : Type} {l : List α} {a : α} : (l ++ [a]).Nodup ↔ a ∉ l ∧ l.Nodup :=
  List.perm_append_comm.nodup_iff.trans List.nodup_cons

theorem filterMap_congr {α β : Type} {f g : α → Option β} {l : List α} (h : ∀ x ∈ l, f x = g x) :
    l.filterMap f = l.filterMap g := by
  induction l with
  | nil => rfl
  | cons a l ih => simp_all [List.filterMap_cons]

theorem takeWhile_congr {α : Type} {p q : α → Bool} {l : List α} (h : ∀ a ∈ l, p a = q a) :
    l.takeWhile p = l.takeWhile q := by
  induction l with
  | nil => rfl
  | cons a l ih => simp_all [List.takeWhile_cons]

/-- pigeonhole: a duplicate-free list inside a list that is no longer exhausts it -/
theorem subset_of_nodup_of_length_le {α : Type} [DecidableEq α] {A B : List α} (hA : A.Nodup) (hs : A ⊆ B)
    (hl : B.length ≤ A.length) : B ⊆ A := by
  intro k hk
  refine Decidable.byContradiction fun hkA => ?_
  have : A ⊆ B.erase k := fun x hx => (List.mem_erase_of_ne fun e : x = k => hkA (e ▸ hx)).mpr (hs hx)
  have := hA.length_le_of_subset this
  rw [List.length_erase_of_mem hk] at this
  have := List.length_pos_of_mem hk
  omega

/-- `List.pairwise_mergeSort` for the comparison "`le` on a key", decided -/
theorem pairwise_mergeSort_key {α κ : Type} (key : α → κ) (le : κ → κ → Prop) [DecidableRel le]
    (trans : ∀ a b c, le a b → le b c → le a c) (total : ∀ a b, le a b ∨ le b a) (l : List α) :
    (l.mergeSort fun a b => decide (le (key a) (key b))).Pairwise fun a b => le (key a) (key b) :=
  (List.pairwise_mergeSort (le := fun a b => decide (le (key a) (key b)))
    (fun _ _ _ h₁ h₂ => decide_eq_true (trans _ _ _ (of_decide_eq_true h₁) (of_decide_eq_true h₂)))
    (fun a b => by simpa using total (key a) (key b)) l).imp of_decide_eq_true

/-- members of a list with pairwise distinct keys are determined by their key -/
theorem eq_of_key_eq {α κ : Type} {key : α → κ} {l : List α} (h : l.Pairwise (fun a b => key a ≠ key b)) :
    ∀ ⦃x⦄, x ∈ l → ∀ ⦃y⦄, y ∈ l → key x = key y → x = y :=
  List.Pairwise.forall_of_forall_of_flip (fun _ _ _ => rfl) (h.imp fun hne e => absurd e hne)
    (h.imp fun hne e => absurd e.symm hne)

/-- two arrangements of the same items, both sorted by an antisymmetric order on a key whose values are pairwise
distinct, coincide -/
theorem eq_of_perm_of_sorted_by_key {α κ : Type} {key : α → κ} {le : κ → κ → Prop}
    (antisymm : ∀ a b, le a b → le b a → a = b) {l₁ l₂ : List α} (hp : l₁.Perm l₂)
    (hd : l₂.Pairwise (fun a b => key a ≠ key b)) (h₁ : l₁.Pairwise (fun a b => le (key a) (key b)))
    (h₂ : l₂.Pairwise (fun a b => le (key a) (key b))) : l₁ = l₂ :=
  List.Perm.eq_of_pairwise
    (fun _ _ ha hb hab hba => eq_of_key_eq hd (hp.subset ha) hb (antisymm _ _ hab hba)) h₁ h₂ hp

end Sqlc
