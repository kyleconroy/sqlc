/-
L0 text layer: bytes, lines, the `bufio.Scanner`/`ScanLines` model used by
`migrations.RemoveRollbackStatements` and `source.StripComments`, and `strings.Split(_, "\n")`.
Go `string` = `List UInt8`.
-/
namespace Sqlc

abbrev Bytes := List UInt8

def NL : UInt8 := 10
def CR : UInt8 := 13

def B (s : String) : Bytes := s.toUTF8.toList

open Lean in
/-- `b! "abc"` elaborates to the literal byte list `[97, 98, 99]`, so that `decide` can evaluate
witnesses in the kernel (`String.toUTF8` does not reduce there). -/
macro "b!" s:str : term => do
  let bs := s.getString.toUTF8.toList
  let elems ← bs.mapM (fun b => `(($(Syntax.mkNumLit (toString b.toNat)) : UInt8)))
  `([$elems.toArray,*])

def bytesToString (b : Bytes) : String := String.fromUTF8! (ByteArray.mk b.toArray)

/-- `strings.Split(s, "\n")`: always at least one segment. -/
def splitNL : Bytes → List Bytes
  | [] => [[]]
  | c :: cs =>
    if c = NL then [] :: splitNL cs
    else match splitNL cs with
      | [] => [[c]]
      | l :: ls => (c :: l) :: ls

/-- `strings.Join(ls, "\n")` -/
def joinNL : List Bytes → Bytes
  | [] => []
  | [l] => l
  | l :: ls => l ++ NL :: joinNL ls

def dropCR (l : Bytes) : Bytes :=
  if l.getLast? = some CR then l.dropLast else l

/-- the tokens `bufio.Scanner` with `ScanLines` yields (ignoring the 64 KiB token limit, see
`LongLine`): segments between newlines, a final empty segment is not a token, one trailing CR is
dropped from each token. -/
def scanLines (s : Bytes) : List Bytes :=
  let segs := splitNL s
  let segs := if segs.getLast? = some [] then segs.dropLast else segs
  segs.map dropCR

/-- the scanner gives up (silently, because callers ignore `s.Err()`) at the first line whose
length reaches the token limit -/
def maxToken : Nat := 65536
def hasLongLine (s : Bytes) : Bool := (splitNL s).any (fun l => l.length ≥ maxToken - 1)

theorem splitNL_ne_nil (s : Bytes) : splitNL s ≠ [] := by
  cases s with
  | nil => exact List.cons_ne_nil _ _
  | cons c cs =>
    unfold splitNL
    split
    · exact List.cons_ne_nil _ _
    · split <;> exact List.cons_ne_nil _ _

theorem joinNL_cons_cons (c : UInt8) (l : Bytes) (ls : List Bytes) :
    joinNL ((c :: l) :: ls) = c :: joinNL (l :: ls) := by
  cases ls <;> rfl

theorem joinNL_splitNL (s : Bytes) : joinNL (splitNL s) = s := by
  induction s with
  | nil => rfl
  | cons c cs ih =>
    obtain ⟨l, ls, hs⟩ := List.exists_cons_of_ne_nil (splitNL_ne_nil cs)
    rw [splitNL, hs]
    rw [hs] at ih
    split
    next h => exact h ▸ congrArg (NL :: ·) ih
    next => rw [joinNL_cons_cons, ih]

/-- no segment of `splitNL` contains a newline -/
theorem splitNL_no_nl (s : Bytes) : ∀ l ∈ splitNL s, NL ∉ l := by
  induction s with
  | nil => simp [splitNL]
  | cons c cs ih =>
    obtain ⟨l, ls, hs⟩ := List.exists_cons_of_ne_nil (splitNL_ne_nil cs)
    rw [splitNL, hs]
    rw [hs] at ih
    split
    next => exact List.forall_mem_cons.mpr ⟨List.not_mem_nil, ih⟩
    next hc =>
      obtain ⟨h0, hr⟩ := List.forall_mem_cons.mp ih
      exact List.forall_mem_cons.mpr ⟨fun hm => (List.mem_cons.mp hm).elim (fun e => hc e.symm) h0, hr⟩

end Sqlc
