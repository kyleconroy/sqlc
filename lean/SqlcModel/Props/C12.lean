import SqlcModel.Driver.Generate
import SqlcModel.Gen.Untranslatable
import SqlcModel.Config.Validate
import SqlcModel.Gen.ValidationFacts
/-
C12 — Generation is all-or-nothing with a truthful exit status.
For ANY list of packages and ANY placement of failing packages, given the loop shape read off the
current source (`genFacts`, regenerated).

"A package of the configuration is in error" includes the configuration itself: `Config/Validate.lean` models
v2ParseConfig's checks; `C12_config_accepted_iff` / `C12_config_fault_rejected` show that a fault in ANY gen
target of ANY entry rejects the configuration, `validation_sites` ties the model to the control skeleton of
the validation functions as the translator reads it off the source (every `return` with the guards above it),
and the correspondence stream runs config.ParseConfig next to the model on structured configurations (verdict
and error class must agree).
-/
namespace Sqlc.C12
open Sqlc.Drv Sqlc.Cfg.V2

/-- O1: the loop of the current source has the shape the property needs: both failure branches set
`errored`, the gate follows the loop and returns (nil, error), output is only written on the success
path and only returned when nothing errored; genCmd/checkCmd exit non-zero on error, genCmd writes only
after the check and checkCmd never writes. -/
theorem loop_shape : genFacts.sound = true ∧ Gen.genCmdExitsOnError = true ∧
    Gen.genCmdWritesOnlyAfterCheck = true ∧ Gen.checkCmdExitsOnError = true ∧ Gen.checkCmdWriteCalls = 0 := by decide

theorem runLoop_cons (f : LoopFacts) (p : PkgOutcome) (ps : List PkgOutcome) (st : LoopState) :
    runLoop f (p :: ps) st =
      if (loopStep f st p).2 then runLoop f ps (loopStep f st p).1 else (loopStep f st p).1 := rfl

/-- whatever every step of the loop keeps true is still true when the loop ends, broken off or not -/
theorem runLoop_preserves (f : LoopFacts) {P : LoopState → Prop}
    (hP : ∀ st p, P st → P (loopStep f st p).1) : ∀ (ps : List PkgOutcome) (st : LoopState), P st → P (runLoop f ps st)
  | [], _, h => h
  | p :: ps, st, h => by
    rw [runLoop_cons]
    split
    · exact runLoop_preserves f hP ps _ (hP st p h)
    · exact hP st p h

/-- no step clears `errored` or takes back a diagnostic -/
theorem loopStep_mono (f : LoopFacts) (n : Nat) (st : LoopState) (p : PkgOutcome)
    (h : st.errored = true ∧ n ≤ st.diags) : (loopStep f st p).1.errored = true ∧ n ≤ (loopStep f st p).1.diags := by
  cases p
  · exact h
  · exact ⟨by simp [loopStep, h.1], Nat.le_succ_of_le h.2⟩
  · exact ⟨by simp [loopStep, h.1], Nat.le_succ_of_le h.2⟩

theorem sound_facts {f : LoopFacts} (hs : f.sound = true) :
    f.parseFailSetsErrored = true ∧ f.genFailSetsErrored = true ∧ f.gateAfterLoop = true := by
  simp only [LoopFacts.sound, Bool.and_eq_true, and_assoc] at hs
  exact ⟨hs.1, hs.2.1, hs.2.2.1⟩

theorem loopStep_fail {f : LoopFacts} (hs : f.sound = true) (st : LoopState) (p : PkgOutcome) (hp : allOk [p] = false) :
    (loopStep f st p).1.errored = true ∧ st.diags + 1 ≤ (loopStep f st p).1.diags := by
  obtain ⟨h1, h2, -⟩ := sound_facts hs
  cases p
  · cases hp
  · exact ⟨by simp [loopStep, h1], Nat.le_refl _⟩
  · exact ⟨by simp [loopStep, h2], Nat.le_refl _⟩

/-- all packages fine ⇒ the loop reaches the end with the union of all files and no error -/
theorem runLoop_allOk (f : LoopFacts) : ∀ (ps : List PkgOutcome) (st : LoopState), allOk ps = true →
    runLoop f ps st = { st with output := unionFiles ps st.output }
  | [], _, _ => rfl
  | .ok _ :: ps, _, h => runLoop_allOk f ps _ h
  | .parseFail :: _, _, h => nomatch h
  | .genFail :: _, _, h => nomatch h

/-- from a failing package on, `errored` is set and its diagnostic counted, whether the loop breaks or goes on -/
theorem runLoop_fail {f : LoopFacts} (hs : f.sound = true) (p : PkgOutcome) (hp : allOk [p] = false)
    (ps : List PkgOutcome) (st : LoopState) :
    (runLoop f (p :: ps) st).errored = true ∧ st.diags + 1 ≤ (runLoop f (p :: ps) st).diags := by
  have h := loopStep_fail hs st p hp
  rw [runLoop_cons]
  split
  · exact runLoop_preserves f (loopStep_mono f _) ps _ h
  · exact h

/-- some package fails ⇒ `errored` is set when the loop ends (whether it breaks or continues) -/
theorem runLoop_notAllOk (f : LoopFacts) (hs : f.sound = true) : ∀ (ps : List PkgOutcome) (st : LoopState),
    allOk ps = false → (runLoop f ps st).errored = true ∧ st.diags + 1 ≤ (runLoop f ps st).diags
  | [], _, h => nomatch h
  | .ok _ :: ps, _, h => runLoop_notAllOk f hs ps _ h
  | .parseFail :: ps, st, _ => runLoop_fail hs .parseFail rfl ps st
  | .genFail :: ps, st, _ => runLoop_fail hs .genFail rfl ps st

/-- C12: for every package list, output is produced iff every package is fine, and then it is the
complete file set of every package; otherwise nothing is returned and at least one diagnostic was
printed. Holds for any `break`/`continue` choice in the two failure branches. -/
theorem C12_all_or_nothing (f : LoopFacts) (hs : f.sound = true) (pkgs : List PkgOutcome) :
    (allOk pkgs = true → generate f pkgs = (some (unionFiles pkgs []), 0)) ∧
    (allOk pkgs = false → (generate f pkgs).1 = none ∧ 1 ≤ (generate f pkgs).2) := by
  constructor
  · intro h
    simp [generate, runLoop_allOk f pkgs {} h]
  · intro h
    have ⟨he, hd⟩ := runLoop_notAllOk f hs pkgs {} h
    simp only [generate, (sound_facts hs).2.2, he, Bool.and_self, if_true]
    exact ⟨trivial, by simpa using hd⟩

/-- instantiated with the loop of the current source -/
theorem C12 (pkgs : List PkgOutcome) :
    (allOk pkgs = true → generate genFacts pkgs = (some (unionFiles pkgs []), 0)) ∧
    (allOk pkgs = false → (generate genFacts pkgs).1 = none ∧ 1 ≤ (generate genFacts pkgs).2) :=
  C12_all_or_nothing genFacts loop_shape.1 pkgs

/-- non-vacuity -/
example : generate genFacts [.ok [("a/db.go", "x")], .genFail, .ok [("b/db.go", "y")]] = (none, 1) := by decide
example : generate genFacts [.ok [("a/db.go", "x")], .ok [("b/db.go", "y")]] =
    (some [("a/db.go", "x"), ("b/db.go", "y")], 0) := by decide

/-! ### configuration validation (version 2) -/

/-- the control skeleton of v2ParseConfig as audited: one return per check, every per-entry check inside
`range conf.SQL` and under the guard of ITS OWN gen target only, no return between the targets of an entry -/
def expectedV2Paths : List (List String × String) := [
  (["if err := dec.Decode(&conf); err != nil"], "conf, err"),
  (["if conf.Version == \"\""], "conf, ErrMissingVersion"),
  (["if conf.Version != \"2\""], "conf, ErrUnknownVersion"),
  (["if len(conf.SQL) == 0"], "conf, ErrNoPackages"),
  (["if err := conf.validateGlobalOverrides(); err != nil"], "conf, err"),
  (["if conf.Gen.Go != nil", "range conf.Gen.Go.Overrides", "if err := conf.Gen.Go.Overrides[i].Parse(); err != nil"], "conf, err"),
  (["range conf.SQL", "if conf.SQL[j].Engine == \"\""], "conf, ErrMissingEngine"),
  (["range conf.SQL", "switch conf.SQL[j].Engine default"], "conf, ErrUnknownEngine"),
  (["range conf.SQL", "if conf.SQL[j].Gen.Go != nil", "if conf.SQL[j].Gen.Go.Out == \"\""], "conf, ErrNoPackagePath"),
  (["range conf.SQL", "if conf.SQL[j].Gen.Go != nil", "range conf.SQL[j].Gen.Go.Overrides", "if err := conf.SQL[j].Gen.Go.Overrides[i].Parse(); err != nil"], "conf, err"),
  (["range conf.SQL", "if conf.SQL[j].Gen.Kotlin != nil", "if conf.SQL[j].Gen.Kotlin.Out == \"\""], "conf, ErrKotlinNoOutPath"),
  (["range conf.SQL", "if conf.SQL[j].Gen.Kotlin != nil", "if conf.SQL[j].Gen.Kotlin.Package == \"\""], "conf, ErrNoPackageName"),
  (["range conf.SQL", "if conf.SQL[j].Gen.Python != nil", "range conf.SQL[j].Gen.Python.Overrides", "if err := conf.SQL[j].Gen.Python.Overrides[i].Parse(); err != nil"], "conf, err"),
  ([], "conf, nil")]

def expectedV1Paths : List (List String × String) := [
  (["if err := dec.Decode(&settings); err != nil"], "config, err"),
  (["if settings.Version == \"\""], "config, ErrMissingVersion"),
  (["if settings.Version != \"1\""], "config, ErrUnknownVersion"),
  (["if len(settings.Packages) == 0"], "config, ErrNoPackages"),
  (["if err := settings.ValidateGlobalOverrides(); err != nil"], "config, err"),
  (["range settings.Overrides", "if err := settings.Overrides[i].Parse(); err != nil"], "config, err"),
  (["range settings.Packages", "if settings.Packages[j].Path == \"\""], "config, ErrNoPackagePath"),
  (["range settings.Packages", "range settings.Packages[j].Overrides", "if err := settings.Packages[j].Overrides[i].Parse(); err != nil"], "config, err"),
  (["range settings.Packages", "switch settings.Packages[j].Engine default"], "config, ErrUnknownEngine"),
  ([], "settings.Translate(), nil")]

/-- O2 (regenerated): the validation functions of the current source have the audited skeletons -/
theorem validation_sites : Gen.v2ParsePaths = expectedV2Paths ∧ Gen.v1ParsePaths = expectedV1Paths := ⟨rfl, rfl⟩

/-- the version dispatcher, the engine-tag rule for global overrides and Override.Parse, likewise -/
theorem validation_sites_rest :
    Gen.parseConfigPaths = [
      (["if err := dec.Decode(&version); err != nil"], "config, err"),
      (["if version.Number == \"\""], "config, ErrMissingVersion"),
      (["switch version.Number case \"1\""], "v1ParseConfig(&buf)"),
      (["switch version.Number case \"2\""], "v2ParseConfig(&buf)"),
      (["switch version.Number default"], "config, ErrUnknownVersion")
    ] ∧
    Gen.v2GlobalOverridePaths = [
      (["if c.Gen.Go == nil"], "nil"),
      (["range c.Gen.Go.Overrides", "if usesMultipleEngines && oride.Engine == \"\""], "fmt.Errorf(`the \"engine\" field is required for global type overrides because your configuration uses multiple database engines`)"),
      ([], "nil")
    ] ∧
    Gen.overrideParsePaths = [
      (["if o.Deprecated_PostgresType != \"\"", "if o.DBType != \"\""], "fmt.Errorf(`Type override configurations cannot have \"db_type\" and \"postres_type\" together. Use \"db_type\" alone`)"),
      (["switch  case o.Column != \"\" && o.DBType != \"\""], "fmt.Errorf(\"Override specifying both `column` (%q) and `db_type` (%q) is not valid.\", o.Column, o.DBType)"),
      (["switch  case o.Column == \"\" && o.DBType == \"\""], "fmt.Errorf(\"Override must specify one of either `column` or `db_type`\")"),
      (["if o.Column != \"\"", "switch len(colParts) default"], "fmt.Errorf(\"Override `column` specifier %q is not the proper format, expected '[catalog.][schema.]colname.tablename'\", o.Column)"),
      (["if err != nil"], "err"),
      ([], "nil")
    ] := ⟨rfl, rfl, rfl⟩

/-- a check `if bad then some err else rest` passes iff it does not fire and the rest passes -/
theorem ite_some_eq_none {α : Type} {c : Prop} [Decidable c] {a : α} {r : Option α} :
    (if c then some a else r) = none ↔ ¬ c ∧ r = none := by
  split <;> simp [*]

theorem checkGo_none_iff (g : Option GoT) : checkGo g = none ↔ goOk g = true := by
  cases g <;> simp [checkGo, goOk, ite_some_eq_none]

theorem checkKotlin_none_iff (k : Option KtT) : checkKotlin k = none ↔ kotlinOk k = true := by
  cases k <;> simp [checkKotlin, kotlinOk, ite_some_eq_none]

theorem checkPython_none_iff (p : Option PyT) : checkPython p = none ↔ pythonOk p = true := by
  cases p <;> simp [checkPython, pythonOk]

theorem validateEntry_none_iff (e : Entry) : validateEntry e = none ↔ entryOk e = true := by
  simp only [validateEntry, entryOk, ite_some_eq_none, Bool.and_eq_true, ← checkGo_none_iff, ← checkKotlin_none_iff,
    ← checkPython_none_iff]
  cases checkGo e.go <;> cases checkKotlin e.kotlin <;> simp [and_assoc]

theorem validateEntries_none_iff : ∀ (es : List Entry), validateEntries es = none ↔ ∀ e ∈ es, entryOk e = true
  | [] => by simp [validateEntries]
  | e :: es => by
    rw [List.forall_mem_cons, ← validateEntry_none_iff, ← validateEntries_none_iff es, validateEntries]
    cases validateEntry e <;> simp

/-- **C12 (configuration).** A version-2 configuration is accepted iff its header is in order and EVERY gen
target of EVERY entry is; so a fault in any target of any entry — the second target of an entry, the last
entry of the list — rejects the whole configuration before anything is compiled or written. -/
theorem C12_config_accepted_iff (c : Conf) :
    parse c = none ↔
      (c.version = "2" ∧ c.entries ≠ [] ∧
       ¬ (c.hasGlobalGo = true ∧ usesMultipleEngines c.entries = true ∧ c.globalUntagged = true) ∧
       ¬ (c.hasGlobalGo = true ∧ c.globalOverridesOk = false) ∧
       ∀ e ∈ c.entries, entryOk e = true) := by
  -- with the version decided either way `simp` evaluates both version checks (the first is subsumed by the second)
  by_cases hv : c.version = "2" <;>
    simp [parse, ite_some_eq_none, validateEntries_none_iff, hv]

theorem C12_config_fault_rejected (c : Conf) (e : Entry) (he : e ∈ c.entries) (hf : entryOk e = false) :
    (parse c).isSome = true :=
  Option.isSome_iff_ne_none.mpr fun h =>
    absurd (((C12_config_accepted_iff c).mp h).2.2.2.2 e he) (by simp [hf])

/-- non-vacuity: a two-target entry whose SECOND target is at fault, behind a fine entry -/
def wFine : Entry := ⟨"postgresql", some ⟨"db", "db", true⟩, none, none⟩
def wSecondTargetBad : Entry := ⟨"postgresql", some ⟨"db2", "db2", true⟩, some ⟨"kt", ""⟩, none⟩
def wAllTargets : Entry := ⟨"postgresql", some ⟨"db", "db", true⟩, some ⟨"kt", "p"⟩, some ⟨true⟩⟩
example : parse ⟨"2", false, false, true, [wFine, wSecondTargetBad]⟩ = some .noPackageName := by decide
example : parse ⟨"2", false, false, true, [wAllTargets]⟩ = none := by decide

theorem translator_complete : Gen.untranslatable = [] := rfl

end Sqlc.C12
