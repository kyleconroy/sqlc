import SqlcModel.Query.Analyze
import SqlcModel.Lemmas.GoGen
import SqlcModel.Lemmas.Basics
import SqlcModel.Gen.Untranslatable
import SqlcModel.Gen.ValidationFacts
/-
C03 — Arguments bind one-to-one, in order, to the SQL placeholders.
-/
namespace Sqlc.C03
open Sqlc Sqlc.Q Sqlc.GoGen

/-! ### uniqueParamRefs + sort: one reference per number, ascending -/

/-- `uniqueParamRefs` keeps one reference for every number that occurs: the first. The loop's second component
mirrors the numbers kept so far. -/
theorem uniqueParamRefs_numbers (l : List ParamRef) :
    ((uniqueParamRefs l).map (·.number)).Nodup ∧
      ∀ k, k ∈ (uniqueParamRefs l).map (·.number) ↔ k ∈ l.map (·.number) := by
  refine (foldl_prefix_induction
    (fun pre (acc : List ParamRef × List Nat) => (∀ k, k ∈ acc.2 ↔ k ∈ acc.1.map (·.number)) ∧
      (acc.1.map (·.number)).Nodup ∧ ∀ k, k ∈ acc.1.map (·.number) ↔ k ∈ pre.map (·.number)) _
    ?_ l [] ([], []) ⟨fun _ => Iff.rfl, List.nodup_nil, fun _ => Iff.rfl⟩).2
  intro pre acc r ⟨h2, hd, hm⟩
  simp only [List.contains_iff_mem, h2]
  split
  next hr =>
    refine ⟨h2, hd, fun k => ?_⟩
    simp only [hm, List.map_append, List.mem_append, List.map_cons, List.map_nil, List.mem_singleton]
    exact ⟨Or.inl, fun h => h.elim id (fun e => (hm _).mp (e ▸ hr))⟩
  next hr =>
    refine ⟨?_, ?_, ?_⟩
    · simp [h2, or_comm]
    · rw [List.map_append]; exact nodup_concat.mpr ⟨hr, hd⟩
    · simp [hm]

theorem sortRefs_perm (l : List ParamRef) : (sortRefs l).Perm l := List.mergeSort_perm l _

theorem sortRefs_sorted (l : List ParamRef) : ((sortRefs l).map (·.number)).Pairwise (· ≤ ·) :=
  List.pairwise_map.mpr (pairwise_mergeSort_key (·.number) (· ≤ ·) (fun _ _ _ => Nat.le_trans) Nat.le_total l)

/-- Whatever placeholders were found, in whatever order and however often: after de-duplication and sorting
their numbers ascend strictly and are exactly the numbers that occur. -/
theorem sorted_unique_numbers (l : List ParamRef) :
    ((sortRefs (uniqueParamRefs l)).map (·.number)).Pairwise (· < ·) ∧
      ∀ k, k ∈ (sortRefs (uniqueParamRefs l)).map (·.number) ↔ k ∈ l.map (·.number) := by
  have hp := (sortRefs_perm (uniqueParamRefs l)).map (·.number)
  have hu := uniqueParamRefs_numbers l
  refine ⟨((sortRefs_sorted _).and (hp.nodup_iff.mpr hu.1)).imp fun h => Nat.lt_of_le_of_ne h.1 h.2, fun k => ?_⟩
  rw [hp.mem_iff, hu.2]

/-- a strictly ascending list of naturals whose members are exactly 1..n is `[1, …, n]` -/
theorem ascending_is_range (l : List Nat) (n : Nat) (hs : l.Pairwise (· < ·))
    (hm : ∀ k, k ∈ l ↔ (1 ≤ k ∧ k ≤ n)) : l = List.range' 1 n := by
  refine List.Perm.eq_of_pairwise (le := (· < ·)) (fun _ _ _ _ h h' => absurd h (Nat.lt_asymm h')) hs
    List.pairwise_lt_range' ?_
  rw [List.perm_ext_iff_of_nodup (hs.imp Nat.ne_of_lt) List.nodup_range']
  intro k
  rw [hm k, List.mem_range'_1]
  omega

/-- C03 (numbering): whatever order the placeholders were found in and however often each occurs, if
the numbers that occur are exactly 1..n (which validate.ParamRef enforces), the parameter list after
de-duplication and sorting is numbered exactly 1, 2, …, n: the k-th parameter is `$k`. -/
theorem C03_numbers (l : List ParamRef) (n : Nat)
    (h : ∀ k, k ∈ l.map (·.number) ↔ (1 ≤ k ∧ k ≤ n)) :
    (sortRefs (uniqueParamRefs l)).map (·.number) = List.range' 1 n :=
  ascending_is_range _ n (sorted_unique_numbers l).1 fun k => by rw [(sorted_unique_numbers l).2, h]

/-! ### validate.ParamRef -/

theorem mem_distinct (l : List Nat) (k : Nat) : k ∈ distinctNums l ↔ k ∈ l := by
  induction l with
  | nil => rfl
  | cons n ns ih =>
    unfold distinctNums
    split
    next h => exact ⟨fun hk => .tail _ (ih.mp hk), fun hk => (List.mem_cons.mp hk).elim (· ▸ h) ih.mpr⟩
    next => simp [ih]

theorem nodup_distinct (l : List Nat) : (distinctNums l).Nodup := by
  induction l with
  | nil => exact List.nodup_nil
  | cons n ns ih =>
    unfold distinctNums
    split
    next => exact ih
    next h => exact List.nodup_cons.mpr ⟨h, ih⟩

/-- **validate.ParamRef, characterised.** A statement passes iff the numbers of its placeholders are exactly
1..n for n the number of distinct ones — whatever the order and however often each is repeated. -/
theorem paramRefCheck_none_iff (nums : List Nat) :
    paramRefCheck nums = none ↔ ∀ k, k ∈ nums ↔ (1 ≤ k ∧ k ≤ (distinctNums nums).length) := by
  have hr : paramRefCheck nums = none ↔ List.range' 1 (distinctNums nums).length ⊆ distinctNums nums := by
    simp [paramRefCheck, List.subset_def, mem_distinct]
  have hmem (k : Nat) : 1 ≤ k ∧ k ≤ (distinctNums nums).length ↔ k ∈ List.range' 1 (distinctNums nums).length := by
    rw [List.mem_range'_1, Nat.lt_one_add_iff]
  simp only [hr, ← mem_distinct nums, hmem]
  -- pigeonhole: the n distinct numbers contain 1..n, so they are 1..n
  exact ⟨fun h k => ⟨fun hk => subset_of_nodup_of_length_le List.nodup_range' h (by simp) hk, fun hk => h hk⟩,
    fun h k hk => (h k).mpr hk⟩

/-- O (regenerated): the body of validate.ParamRef is the one `paramRefCheck` was written from -/
theorem paramRef_site :
    Gen.paramRefBody = ["var allrefs []*ast.ParamRef",
      "astutils.Walk(astutils.VisitorFunc(func(node ast.Node) { switch n := node.(type) { case *ast.ParamRef: allrefs = append(allrefs, n) } }), n)",
      "seen := map[int]struct{}{}",
      "for _, r := range allrefs { seen[r.Number] = struct{}{} }",
      "for i := 1; i <= len(seen); i += 1 { if _, ok := seen[i]; !ok { return &sqlerr.Error{ Code: \"42P18\", Message: fmt.Sprintf(\"could not determine data type of parameter $%d\", i), } } }",
      "return nil"] ∧
    Gen.paramRefPaths = [(["for i := 1; i <= len(seen); i += 1", "if _, ok := seen[i]; !ok"], "&<lit>"), ([], "nil")] := ⟨rfl, rfl⟩

/-- **C03 (numbering), with the validator inside the model.** A statement that validate.ParamRef lets through
yields, after de-duplication and sorting, parameters numbered exactly 1, 2, …, n — the k-th parameter is `$k` —
and one it rejects has a hole in its numbering (`paramRefCheck_none_iff`). -/
theorem C03_numbers_validated (l : List ParamRef) (h : paramRefCheck (l.map (·.number)) = none) :
    (sortRefs (uniqueParamRefs l)).map (·.number) = List.range' 1 (distinctNums (l.map (·.number))).length :=
  C03_numbers l _ ((paramRefCheck_none_iff _).mp h)

example : paramRefCheck [1, 1, 3] = some 2 ∧ paramRefCheck [2, 1, 2] = none ∧ paramRefCheck [] = none ∧ paramRefCheck [2] = some 1 := by decide

/-! ### one parameter per reference, call arguments in parameter order -/

/-- if every reference resolves to exactly one parameter carrying its number (the trigger-free case:
`paramTriggers = []`), resolveCatalogRefs' output is numbered like its input -/
theorem foldlM_single {α β ε : Type} (f : α → Except ε (List β)) (num : α → Nat) (pnum : β → Nat) :
    ∀ (args : List α) (acc out : List β),
      (∀ a ∈ args, ∃ p, f a = .ok [p] ∧ pnum p = num a) →
      args.foldlM (fun acc a => do let ps ← f a; pure (acc ++ ps)) acc = .ok out →
      out.map pnum = acc.map pnum ++ args.map num := by
  intro args
  induction args with
  | nil => intro acc out _ h; cases h; simp
  | cons a rest ih =>
    intro acc out hall h
    obtain ⟨p, hp, hn⟩ := hall a List.mem_cons_self
    rw [List.foldlM_cons, hp] at h
    rw [ih _ out (fun x hx => hall x (.tail _ hx)) h]
    simp [hn]

/-- the driver call's argument list has one entry per parameter, in parameter order -/
theorem callargs_one_per_param (env : TypeEnv) (m : String) (ps : List Parameter)
    (hname : ∀ p ∈ ps, paramName p ≠ "") :
    ((argOf env m ps).params).length = ps.length := by
  match ps with
  | [] => rfl
  | [p] => simp [argOf, QueryValue.params, QueryValue.isEmpty, hname p List.mem_cons_self]
  | p :: q :: rest => simp [argOf, QueryValue.params, QueryValue.isEmpty, columnsToStruct, c2sLoop_length]

/-- the scan list has one destination per result column, in column order -/
theorem scan_one_per_column (env : TypeEnv) (m : String) (cs : List Q.Column) (h : cs ≠ []) :
    ((retOfFresh env m cs).scan).length = cs.length := by
  match cs with
  | [] => exact absurd rfl h
  | [c] => simp [retOfFresh, QueryValue.scan]
  | c :: d :: rest => simp [retOfFresh, QueryValue.scan, columnsToStruct, c2sLoop_length]

/-- witnesses that the trigger hypotheses are forced (decided on the faithful model): a placeholder
without a handled parent is dropped, one repeated inside a call is duplicated -/
def wParam (n : Nat) (loc : Int) : Node := .nd "ParamRef" [("Number", false, .num n), ("Location", false, .num loc)]
def wRefNoParent : ParamRef := { parent := .none, rv := none, number := 1, location := 10 }
theorem witness_noParent :
    (match resolveOne { defaultSchema := "public", schemas := [] } [] [] [] [] none wRefNoParent with
     | .ok ps => ps.length | .error _ => 99) = 0 := by decide

/-! ### findParameters records every placeholder the tree walk reaches

`C03_found_all`: for every tree in which (a) a ParamRef has no walked children and (b) no ResTarget carries a
MultiAssignRef value (the one case in which Visit deliberately skips a placeholder), the location of every
ParamRef node of `walk root` is in `(findParameters root).seen` — it was either recorded by the ParamRef arm or
bound to an INSERT column by the InsertStmt arm. Nothing is lost BEFORE resolution; what is lost later is lost
by resolveCatalogRefs (the recorded findings noParent / funcArgNested). Proved by mutual structural recursion
over the tree, its field lists and its item lists. -/

def locOf (n : Node) : Int := (n.get "Location").intVal

/-- the only skip in Visit: a ResTarget whose value is a MultiAssignRef -/
def skipsMulti (p : Node) : Bool := p.isKind "ResTarget" && (p.get "Val").isKind "MultiAssignRef"

def goodParent : Parent → Prop
  | .node p => skipsMulti p = false
  | _ => True

/-- what one stretch of the walk achieves: `acc'` keeps every location recorded in `acc` and has the location
of every placeholder among the nodes `ms` -/
def Records (ms : List Node) (acc acc' : PAcc) : Prop :=
  (∀ l ∈ acc.seen, l ∈ acc'.seen) ∧ ∀ m ∈ ms, m.isKind "ParamRef" → locOf m ∈ acc'.seen

theorem Records.nil (acc : PAcc) : Records [] acc acc := ⟨fun _ h => h, fun _ h => nomatch h⟩

theorem Records.append {ms₁ ms₂ : List Node} {a b c : PAcc} (h₁ : Records ms₁ a b) (h₂ : Records ms₂ b c) :
    Records (ms₁ ++ ms₂) a c :=
  ⟨fun l hl => h₂.1 l (h₁.1 l hl), fun m hm hk =>
    (List.mem_append.mp hm).elim (fun hm => h₂.1 _ (h₁.2 m hm hk)) (fun hm => h₂.2 m hm hk)⟩

/-- a node that is no placeholder, handled by a step that only adds to `seen`, in front of its descendants -/
theorem Records.cons {n : Node} {ms : List Node} {a b c : PAcc} (h₁ : a.seen ⊆ b.seen)
    (hn : n.isKind "ParamRef" = false) (h₂ : Records ms b c) : Records (n :: ms) a c :=
  Records.append (ms₁ := [n]) ⟨h₁, fun m hm hk => by simp_all⟩ h₂

theorem paramSet_good (parent : Parent) (num : Nat) (h : goodParent parent) : paramSet parent num = true := by
  cases parent with
  | node p => simp only [paramSet, show (p.isKind "ResTarget" && (p.get "Val").isKind "MultiAssignRef") = false from h]; rfl
  | _ => rfl

theorem effectiveParent_good (d : PDown) (num : Nat) (h : goodParent d.parent) : goodParent (effectiveParent d num) := by
  unfold effectiveParent
  simp only
  split
  · trivial
  · split
    · trivial
    · exact h

theorem paramArm_records (d : PDown) (n : Node) (acc : PAcc) (hd : goodParent d.parent) :
    Records [n] acc (paramArm d n acc) := by
  suffices h : locOf n ∈ (paramArm d n acc).seen ∧ acc.seen ⊆ (paramArm d n acc).seen from
    ⟨h.2, fun m hm _ => List.mem_singleton.mp hm ▸ h.1⟩
  unfold paramArm
  simp only [paramSet_good _ _ (effectiveParent_good d _ hd), if_true]
  split
  next hs => exact ⟨List.contains_iff_mem.mp hs, List.Subset.refl _⟩
  next => exact ⟨List.mem_cons_self, List.subset_cons_self _ _⟩

/-! The InsertStmt arm only ever adds to `seen`: every `if` in it chooses between two states that both do. -/

theorem subset_seen_ite {X : List Int} {c : Prop} [Decidable c] {a b : PAcc} (ha : X ⊆ a.seen) (hb : X ⊆ b.seen) :
    X ⊆ (if c then a else b).seen := by
  split <;> assumption

theorem insertStep_mono (cols : Node) (rv : Option Node) (u : Bool) (acc : PAcc) (it : Node × Nat) :
    acc.seen ⊆ (insertStep cols rv u acc it).seen :=
  subset_seen_ite (List.Subset.refl _) <| subset_seen_ite (List.Subset.refl _) <| by
    split
    · exact List.Subset.refl _
    · exact List.subset_cons_self _ _

theorem insertAddRefs_mono (cols : Node) (rv : Option Node) (acc : PAcc) (items : List Node) (u : Bool) :
    acc.seen ⊆ (insertAddRefs cols rv acc items u).seen :=
  List.foldlRecOn (motive := fun a : PAcc => acc.seen ⊆ a.seen) _ _ (List.Subset.refl _)
    fun _ h _ _ => h.trans (insertStep_mono ..)

theorem insertArm_mono (n : Node) (acc : PAcc) : acc.seen ⊆ (insertArm n acc).seen :=
  subset_seen_ite (List.Subset.refl _) <| subset_seen_ite (List.Subset.refl _) <|
    subset_seen_ite (insertAddRefs_mono ..) <|
      -- the VALUES rows: a fold of folds
      List.foldlRecOn (motive := fun a : PAcc => acc.seen ⊆ a.seen) _ _ (insertAddRefs_mono ..)
        fun _ h _ _ => subset_seen_ite (h.trans (insertAddRefs_mono ..)) h

/-! ### the walk -/

/-- the hypotheses on the tree: every ResTarget in it is free of MultiAssignRef values, and a ParamRef has no
walked children (true of every tree the engines' converters build) -/
def GoodNode (n : Node) : Prop := skipsMulti n = false ∧ (n.isKind "ParamRef" → Node.walkFields n.fields = [])

/-- Visit hands its children either the node itself as parent or the parent it was given -/
theorem visitDown_parent (d : PDown) (n : Node) :
    (visitDown d n).parent = .node n ∨ (visitDown d n).parent = d.parent := by
  unfold visitDown
  split <;> simp [apply_ite PDown.parent]

/-! `walk`, `findP` and their companions compute on a constructor, so every case below is stated for the
unfolded forms without rewriting. -/
mutual
theorem findP_all : ∀ (n : Node) (d : PDown) (acc : PAcc), goodParent d.parent → (∀ m ∈ n.walk, GoodNode m) →
    Records n.walk acc (findP d n acc)
  | .nd k fs, d, acc, hd, hg => by
    obtain ⟨hself, hg⟩ := List.forall_mem_cons.mp hg
    unfold findP
    split
    next hk =>
      -- a placeholder has no walked children: it is the only node below itself
      show Records (Node.nd k fs :: Node.walkFields fs) acc _
      rw [show Node.walkFields fs = [] from hself.2 hk]
      exact paramArm_records d _ acc hd
    next hk =>
      have hd' : goodParent (visitDown d (.nd k fs)).parent :=
        (visitDown_parent d _).elim (· ▸ hself.1) (· ▸ hd)
      exact Records.cons (subset_seen_ite (insertArm_mono ..) (List.Subset.refl _)) (Bool.not_eq_true _ ▸ hk)
        (findPFields_all fs _ _ hd' hg)
  | .list is, d, acc, hd, hg =>
    Records.cons (List.Subset.refl _) rfl (findPItems_all is d acc hd fun m hm => hg m (.tail _ hm))
  | .str _, _, acc, _, _ | .num _, _, acc, _, _ | .bool _, _, acc, _, _ | .null, _, acc, _, _ => Records.nil acc
theorem findPFields_all : ∀ (fs : List (String × Bool × Node)) (d : PDown) (acc : PAcc), goodParent d.parent →
    (∀ m ∈ Node.walkFields fs, GoodNode m) → Records (Node.walkFields fs) acc (findPFields d fs acc)
  | [], _, acc, _, _ => Records.nil acc
  | (_, true, c) :: rest, d, acc, hd, hg =>
    have hg := List.forall_mem_append.mp hg
    (findP_all c d acc hd hg.1).append (findPFields_all rest d _ hd hg.2)
  | (_, false, _) :: rest, d, acc, hd, hg => findPFields_all rest d acc hd hg
theorem findPItems_all : ∀ (is : List Node) (d : PDown) (acc : PAcc), goodParent d.parent →
    (∀ m ∈ Node.walkItems is, GoodNode m) →
    (∀ l ∈ acc.seen, l ∈ (findPItems d is acc).seen) ∧
    (∀ m ∈ Node.walkItems is, m.isKind "ParamRef" → locOf m ∈ (findPItems d is acc).seen)
  | [], _, acc, _, _ => Records.nil acc
  | c :: rest, d, acc, hd, hg =>
    have hg := List.forall_mem_append.mp hg
    (findP_all c d acc hd hg.1).append (findPItems_all rest d _ hd hg.2)
end

/-- every placeholder the walk reaches is recorded (its location is in `seen`) -/
theorem C03_found_all (root : Node) (hg : ∀ m ∈ root.walk, GoodNode m) :
    ∀ m ∈ root.walk, m.isKind "ParamRef" → locOf m ∈ (findParameters root).seen :=
  (findP_all root {} {} trivial hg).2

theorem translator_complete : Gen.untranslatable = [] := rfl

end Sqlc.C03
