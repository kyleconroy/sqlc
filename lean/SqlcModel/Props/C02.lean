import SqlcModel.Query.Analyze
import SqlcModel.Lemmas.GoGen
import SqlcModel.Lemmas.Resolve
import SqlcModel.Gen.Untranslatable
import SqlcModel.Spec.PgSem
/-
C02 — Result-row shape matches what the embedded SQL returns.

What is proved on the model (internal/compiler output_columns.go / expand.go, codegen result.go / query.go):

* `C02_scan_arity` — whatever struct the method returns (a model struct that passed the reuse test or a
  fresh Row struct), the scan list has exactly one destination per inferred result column;
* `C02_star_agree` — for every `*` / `t.*` target the number of columns inferred (outputColumns' star arm)
  equals the number of identifiers the expansion writes into the embedded SQL (expandStmt's star loop),
  and position by position they come from the same column (`C02_star_same_source`): the two copies of the
  loop (the Go text says "This code is copied in func expand()") cannot drift apart without breaking this;
* `C02_ref_single`, `C02_ref_name` — a plain column reference contributes exactly one column, carrying the
  AS alias if there is one and the column's name otherwise.

What is NOT a theorem: that `sourceTables` puts exactly the database's relations in scope. It does not
(derived tables leak their inner relations — the finding recorded as `subselectLeak`); that half of the
property is decided by the correspondence stream against the PgSem oracle (Spec/PgSem.lean).
-/
namespace Sqlc.C02
open Sqlc Sqlc.Q Sqlc.GoGen Sqlc.Spec.Sem

/-! ### the star arm of outputColumns and the star loop of expandStmt agree -/

/-- the (table, column) pairs a star ranges over: from-clause order, then declaration order -/
def starSources (tables : List Table) (scope : String) : List (Table × Q.Column) :=
  tables.flatMap (fun t => if scope != "" && scope != t.rel.name then [] else t.columns.map (fun c => (t, c)))

theorem flatMap_cond_map {α β γ : Type} (l : List α) (p : α → Bool) (cols : α → List β) (f : α → β → γ) :
    (l.flatMap (fun t => if p t then [] else (cols t).map (f t))) =
    (l.flatMap (fun t => if p t then [] else (cols t).map (fun c => (t, c)))).map (fun tc => f tc.1 tc.2) := by
  simp [List.map_flatMap, apply_ite (List.map _), Function.comp_def]

/-- position by position, the inferred column and the written identifier come from the same column of
the same relation -/
theorem C02_star_same_source (engine : String) (tables : List Table) (scope : String) (rn : Option String) :
    starColumns tables scope rn = (starSources tables scope).map (fun tc =>
      ({ name := rn.getD tc.2.name, scope := scope, table := tc.2.table, dataType := tc.2.dataType,
         notNull := tc.2.notNull, isArray := tc.2.isArray } : Q.Column)) ∧
    starNames engine tables scope rn = (starSources tables scope).map (fun tc => starName engine tables scope rn tc.1 tc.2) :=
  ⟨flatMap_cond_map tables _ (·.columns) _, flatMap_cond_map tables _ (·.columns) _⟩

/-- one inferred column per identifier written, for every star target -/
theorem C02_star_agree (engine : String) (tables : List Table) (scope : String) (rn : Option String) :
    (starColumns tables scope rn).length = (starNames engine tables scope rn).length := by
  rw [(C02_star_same_source engine tables scope rn).1, (C02_star_same_source engine tables scope rn).2]
  simp only [List.length_map]

theorem starSources_eq (tables : List Table) (scope : String) :
    starSources tables scope = (selected tables scope).flatMap (fun t => t.columns.map (fun c => (t, c))) := by
  unfold starSources selected
  rw [flatMap_ite_nil]
  simp [bne, BEq.comm (b := scope)]

theorem mem_starSources {tables : List Table} {scope : String} {t : Table} {c : Q.Column} :
    (t, c) ∈ starSources tables scope ↔ t ∈ tables ∧ (scope = "" ∨ t.rel.name = scope) ∧ c ∈ t.columns := by
  simp [starSources_eq, mem_selected]
  exact and_assoc

/-- an unaliased `*` names its columns after the catalog's columns, in order -/
theorem C02_star_names (tables : List Table) :
    (starColumns tables "" none).map (·.name) = tables.flatMap (fun t => t.columns.map (·.name)) := by
  rw [(C02_star_same_source "" tables "" none).1, starSources_eq, selected_empty]
  simp [List.map_flatMap, Function.comp_def]

/-! ### plain column references -/

theorem ref_ok (res : Node) (tables : List Table) (node : Node) (cols : List Q.Column)
    (h : outputColumnRefs res tables node = .ok cols) :
    ∃ alias name, refParts node = some (alias, name) ∧
      cols = refMatches ((res.get "Name").strOpt) tables alias name ∧ cols.length = 1 := by
  rw [outputColumnRefs_eq] at h
  split at h
  · cases h
  · next alias name hp =>
    obtain ⟨hc, hl⟩ := uniqueHit_eq_ok_iff.mp h
    exact ⟨alias, name, hp, hc, hc ▸ hl⟩

/-- a plain reference that is accepted contributes exactly one column -/
theorem C02_ref_single (res : Node) (tables : List Table) (node : Node) (cols : List Q.Column)
    (h : outputColumnRefs res tables node = .ok cols) : cols.length = 1 := by
  obtain ⟨_, _, _, _, hl⟩ := ref_ok res tables node cols h
  exact hl

theorem mem_refMatches (rn : Option String) (tables : List Table) (alias name : String) (c : Q.Column)
    (h : c ∈ refMatches rn tables alias name) :
    ∃ t ∈ tables, ∃ c0 ∈ t.columns, c0.name = name ∧ (alias = "" ∨ t.rel.name = alias) ∧
      c = ({ name := rn.getD c0.name, table := c0.table, dataType := c0.dataType, notNull := c0.notNull, isArray := c0.isArray } : Q.Column) := by
  rw [refMatches_eq_map, List.mem_map] at h
  obtain ⟨c0, hc0, rfl⟩ := h
  obtain ⟨t, ht, ha, hc, hn⟩ := mem_matched.mp hc0
  exact ⟨t, ht, c0, hc, hn, ha, rfl⟩

/-- … and it carries the AS alias when there is one, the referenced column's name otherwise -/
theorem C02_ref_name (res : Node) (tables : List Table) (node : Node) (c : Q.Column)
    (h : outputColumnRefs res tables node = .ok [c]) :
    ∃ alias name, refParts node = some (alias, name) ∧
      c.name = ((res.get "Name").strOpt).getD name := by
  obtain ⟨alias, name, hp, hc, _⟩ := ref_ok res tables node [c] h
  obtain ⟨_, _, c0, _, hn, _, rfl⟩ := mem_refMatches _ _ _ _ c (hc ▸ List.mem_singleton_self c)
  exact ⟨alias, name, hp, hn ▸ rfl⟩

/-! ### the scan list -/

/-- the generated method scans exactly one destination per inferred result column, whether it returns a
model struct (reuse test passed) or a fresh Row struct -/
theorem C02_scan_arity (env : TypeEnv) (structs : List Struct) (m : String) (cs : List Q.Column) (h : cs ≠ []) :
    ((retOf env structs m cs).scan).length = cs.length := by
  match cs with
  | [] => exact absurd rfl h
  | [c] => simp [retOf, QueryValue.scan]
  | c :: d :: rest =>
    unfold retOf
    simp only
    cases hf : structs.find? (fun s => reuseMatch env s (c :: d :: rest)) with
    | some s =>
      have hm := List.find?_some hf
      unfold reuseMatch at hm
      simp only [Bool.and_eq_true, beq_iff_eq] at hm
      simp [QueryValue.scan, hm.1]
    | none =>
      simp [retOfFresh, QueryValue.scan, columnsToStruct, c2sLoop_length]

/-! ### non-vacuity -/

def wTables : List Table :=
  [{ rel := { name := "a" }, columns := [{ name := "id", dataType := "int8", notNull := true }, { name := "name", dataType := "text" }] },
   { rel := { name := "b" }, columns := [{ name := "id", dataType := "int8", notNull := true }] }]

theorem witness_star : (starColumns wTables "" none).map (·.name) = ["id", "name", "id"] ∧
    (starColumns wTables "b" none).map (·.name) = ["id"] := by decide +kernel

theorem witness_star_names : (starNames "postgresql" wTables "" none).length = 3 := by
  rw [← C02_star_agree]; decide +kernel

/-! ### one query level as the database sees it -/

/-- one query level as the database sees it, built from the model's tables in scope -/
def colInfoOf (c : Q.Column) : ColInfo := { name := c.name, dataType := c.dataType, notNull := c.notNull, isArray := c.isArray }
def relOf (t : Table) : Rel := { qual := t.rel.name, cols := t.columns.map colInfoOf }
def levelOf (tables : List Table) : Scope := tables.map relOf

/-! ### one query level: star expansion refines the database's rule -/

theorem levelOf_filter (tables : List Table) (q : String) :
    (levelOf tables).filter (·.qual == q) = levelOf (tables.filter (·.rel.name == q)) := by
  simp [levelOf, List.filter_map, Function.comp_def, relOf]

/-- a star's columns are, attribute by attribute, the columns of the selected relations of the level -/
theorem star_level (tables : List Table) (scope : String) :
    (starColumns tables scope none).map colInfoOf = (levelOf (selected tables scope)).flatMap (·.cols) := by
  rw [(C02_star_same_source "" tables scope none).1, starSources_eq]
  simp [levelOf, relOf, List.map_flatMap, List.flatMap_map, Function.comp_def]
  rfl

/-- a level built from the model's tables has no merged (JOIN … USING) columns -/
theorem levelOf_not_merged (tables : List Table) : (levelOf tables).any (fun r => r.cols.any (·.merged)) = false := by
  simp [levelOf, relOf, colInfoOf]

theorem starOf_all (tables : List Table) : starOf (levelOf tables) [] = .ok ((levelOf tables).flatMap (·.cols)) := by
  simp [starOf, levelOf_not_merged]

theorem starOf_qualified (tables : List Table) (q : String) :
    starOf (levelOf tables) [q] = if ∀ t ∈ tables, t.rel.name ≠ q then .error (.qualifierMissing q)
      else .ok ((levelOf (tables.filter (·.rel.name == q))).flatMap (·.cols)) := by
  simp only [starOf, List.getLastD, levelOf_filter]
  simp [levelOf]

/-- **C02 / C07, one level (refinement).** What the model puts for `*` and for `q.*` is, name by name and in
the same order, what the database's rule (`PgSem.starOf` on that level alone) puts — for every list of tables in
scope; and `q.*` with a qualifier no relation of the level carries is the one case the database rejects. -/
theorem C02_star_refines (tables : List Table) :
    (∃ cs, starOf (levelOf tables) [] = .ok cs ∧ cs.map (·.name) = (starColumns tables "" none).map (·.name)) ∧
    (∀ q, q ≠ "" → (∃ t ∈ tables, t.rel.name = q) →
      ∃ cs, starOf (levelOf tables) [q] = .ok cs ∧ cs.map (·.name) = (starColumns tables q none).map (·.name)) ∧
    (∀ q, (∀ t ∈ tables, t.rel.name ≠ q) → starOf (levelOf tables) [q] = .error (.qualifierMissing q)) := by
  have names (scope : String) (ts : List Table) (h : selected tables scope = ts) :
      ((levelOf ts).flatMap (·.cols)).map (·.name) = (starColumns tables scope none).map (·.name) := by
    rw [← h, ← star_level, List.map_map]
    rfl
  refine ⟨⟨_, starOf_all tables, names "" tables (selected_empty tables)⟩, ?_, ?_⟩
  · intro q hq ⟨t, ht, htq⟩
    refine ⟨_, ?_, names q _ (selected_of_ne hq tables)⟩
    rw [starOf_qualified, if_neg fun h => h t ht htq]
  · intro q hnone
    rw [starOf_qualified, if_pos hnone]

theorem translator_complete : Gen.untranslatable = [] := rfl

end Sqlc.C02
