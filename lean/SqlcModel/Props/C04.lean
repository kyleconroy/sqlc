import SqlcModel.Text.Source
import SqlcModel.Gen.Untranslatable
import SqlcModel.Lemmas.Basics
/-
C04 — Embedded SQL is the user's statement, modulo documented rewrites (the text-edit core).

`source.Mutate` is proved to implement simultaneous substitution: for every statement text that is cut
into `gap₁ old₁ gap₂ old₂ … tail`, applying the edits `oldₖ ↦ newₖ` — in whatever order they were
appended — yields `gap₁ new₁ gap₂ new₂ … tail`. Unbounded in the number, position and size of edits.
-/
namespace Sqlc.C04
open Sqlc

structure Piece where
  gap : Bytes
  old : Bytes
  new : Bytes
deriving Repr, DecidableEq

def srcOf : List Piece → Bytes → Bytes
  | [], tail => tail
  | p :: ps, tail => p.gap ++ p.old ++ srcOf ps tail

def dstOf : List Piece → Bytes → Bytes
  | [], tail => tail
  | p :: ps, tail => p.gap ++ p.new ++ dstOf ps tail

/-- the edits a rewrite pass emits for the pieces, with absolute offsets starting at `off` -/
def editsOf : List Piece → Nat → List Edit
  | [], _ => []
  | p :: ps, off =>
    { loc := ((off + p.gap.length : Nat) : Int), old := p.old, new := p.new } ::
      editsOf ps (off + p.gap.length + p.old.length)

def WellFormed (ps : List Piece) : Prop := ∀ p ∈ ps, p.old ≠ [] ∧ p.new ≠ []

/-- one edit whose `old` text really sits at its location replaces exactly that text -/
theorem applyEdit_fits (pre old new post : Bytes) (ho : old ≠ []) (hn : new ≠ []) :
    applyEdit (pre ++ old ++ post) { loc := (pre.length : Int), old := old, new := new } =
      .ok (pre ++ new ++ post) := by
  have hol := List.length_pos_iff.mpr ho
  have hnl := List.length_pos_iff.mpr hn
  have hdrop : (pre ++ (old ++ post)).drop (pre.length + old.length - 1 + 1) = post := by
    rw [Nat.sub_add_cancel (by omega), ← List.length_append, ← List.append_assoc, List.drop_left]
  simp only [applyEdit, List.length_append, Int.toNat_natCast, List.append_assoc, List.take_left, hdrop]
  rw [if_neg (by omega), if_neg (by omega), if_neg (by omega), if_neg (by omega), if_pos (by omega)]

theorem applyEdits_append (s : Bytes) (a b : List Edit) :
    applyEdits s (a ++ b) = (applyEdits s a).bind (fun s' => applyEdits s' b) := by
  induction a generalizing s with
  | nil => rfl
  | cons e es ih =>
    simp only [List.cons_append, applyEdits, bind, Except.bind]
    cases applyEdit s e with
    | error x => rfl
    | ok s' => exact ih s'

/-- applying the edits from the right end towards the left performs the simultaneous substitution -/
theorem applyEdits_pieces (ps : List Piece) (pre tail : Bytes) (h : WellFormed ps) :
    applyEdits (pre ++ srcOf ps tail) (editsOf ps pre.length).reverse = .ok (pre ++ dstOf ps tail) := by
  induction ps generalizing pre with
  | nil => rfl
  | cons p ps ih =>
    have hp := h p List.mem_cons_self
    -- first the edits of `ps`, with `pre ++ p.gap ++ p.old` in front of them; then `p`'s own edit fits
    have ih := ih (pre ++ p.gap ++ p.old) fun q hq => h q (.tail _ hq)
    have hfit := applyEdit_fits (pre ++ p.gap) p.old p.new (dstOf ps tail) hp.1 hp.2
    simp only [List.length_append, List.append_assoc, Int.natCast_add] at ih hfit
    simp only [editsOf, srcOf, dstOf, List.reverse_cons, applyEdits_append, List.append_assoc, Nat.add_assoc,
      Int.natCast_add, ih, Except.bind, applyEdits, hfit, bind]

theorem editsOf_loc_lower (ps : List Piece) (off : Nat) : ∀ e ∈ editsOf ps off, (off : Int) ≤ e.loc := by
  induction ps generalizing off with
  | nil => exact fun _ h => nomatch h
  | cons p ps ih =>
    intro e h
    rcases List.mem_cons.mp h with rfl | h
    · simp only [Int.natCast_add]; omega
    · have := ih _ e h
      omega

/-- offsets of the emitted edits increase strictly: each `old` text is non-empty and what follows it starts
behind it -/
theorem editsOf_ascending (ps : List Piece) (off : Nat) (h : WellFormed ps) :
    (editsOf ps off).Pairwise (fun a b => a.loc < b.loc) := by
  induction ps generalizing off with
  | nil => exact .nil
  | cons p ps ih =>
    have hol := List.length_pos_iff.mpr (h p List.mem_cons_self).1
    refine .cons (fun e he => ?_) (ih _ fun q hq => h q (.tail _ hq))
    have := editsOf_loc_lower ps _ e he
    simp only [Int.natCast_add] at this ⊢
    omega

theorem sortEditsDesc_sorted (es : List Edit) : (sortEditsDesc es).Pairwise (fun a b => a.loc ≥ b.loc) :=
  pairwise_mergeSort_key (·.loc) (· ≥ ·) (fun _ _ _ h₁ h₂ => Int.le_trans h₂ h₁) (fun _ _ => Int.le_total _ _) es

/-- ANY arrangement of the emitted edits by descending location performs the substitution: the locations are
strictly ordered, so it can only be the reverse of the emitted list. (Go's `sort.Slice` promises no more than some
such arrangement.) -/
theorem applyEdits_descending (ps : List Piece) (tail : Bytes) (l : List Edit) (hw : WellFormed ps)
    (hperm : l.Perm (editsOf ps 0)) (hl : l.Pairwise (fun a b => a.loc ≥ b.loc)) :
    applyEdits (srcOf ps tail) l = .ok (dstOf ps tail) := by
  have hdesc : (editsOf ps 0).reverse.Pairwise (fun a b => a.loc > b.loc) :=
    List.pairwise_reverse.mpr (editsOf_ascending ps 0 hw)
  rw [eq_of_perm_of_sorted_by_key (key := Edit.loc) (le := (· ≥ ·)) (fun _ _ h h' => Int.le_antisymm h' h)
    (hperm.trans (List.reverse_perm _).symm) (hdesc.imp Int.ne_of_gt) hl (hdesc.imp Int.le_of_lt)]
  exact applyEdits_pieces ps [] tail hw

/-- `Mutate` on the emitted edits in any order; with no piece there is no edit and the text is returned as it is -/
theorem mutate_pieces (ps : List Piece) (tail : Bytes) (es : List Edit) (hw : WellFormed ps)
    (hperm : es.Perm (editsOf ps 0)) : mutate (srcOf ps tail) es = .ok (dstOf ps tail) := by
  unfold mutate
  split
  next h =>
    cases List.isEmpty_iff.mp h
    cases ps with
    | nil => rfl
    | cons p ps => cases hperm.symm.eq_nil
  next => exact applyEdits_descending ps tail _ hw ((List.mergeSort_perm es _).trans hperm) (sortEditsDesc_sorted es)

set_option linter.unusedVariables false in -- `hne` is not needed
/-- C04 (text edits): the order in which the rewrite passes append their edits is irrelevant —
`Mutate` sorts them and performs the simultaneous substitution. -/
theorem C04_mutate_substitution (ps : List Piece) (tail : Bytes) (es : List Edit)
    (hw : WellFormed ps) (hne : ps ≠ []) (hperm : es.Perm (editsOf ps 0)) :
    mutate (srcOf ps tail) es = .ok (dstOf ps tail) :=
  mutate_pieces ps tail es hw hperm

/-- non-vacuity: two rewrites in one statement, appended in text order or in reverse -/
def exPieces : List Piece := [⟨b! "SELECT ", b! "*", b! "id, name"⟩, ⟨b! " FROM t WHERE id = ", b! "@id", b! "$1"⟩]
theorem exPieces_wf : WellFormed exPieces := by
  intro p hp
  simp only [exPieces, List.mem_cons, List.mem_nil_iff, or_false] at hp
  rcases hp with rfl | rfl <;> exact ⟨by decide, by decide⟩
example : mutate (srcOf exPieces (b! " LIMIT 1")) (editsOf exPieces 0).reverse =
    .ok (dstOf exPieces (b! " LIMIT 1")) :=
  C04_mutate_substitution exPieces _ _ exPieces_wf (by simp [exPieces]) (List.reverse_perm _)
example : dstOf exPieces (b! " LIMIT 1") = b! "SELECT id, name FROM t WHERE id = $1 LIMIT 1" := rfl

/-- `Mutate` rejects exactly: an out-of-range start and an empty old/new text (first edit shown) -/
theorem applyEdit_errors (s : Bytes) (e : Edit) (err : MutErr) (h : applyEdit s e = .error err) :
    (err = .outOfBounds ∧ e.loc > s.length) ∨ (err = .emptyEdit ∧ (e.new = [] ∨ e.old = [])) ∨
    (err = .panic ∧ e.loc < 0) := by
  rcases ite_eq_cases h with ⟨h1, ⟨⟩⟩ | ⟨-, h⟩
  · exact .inl ⟨rfl, h1⟩
  rcases ite_eq_cases h with ⟨h2, ⟨⟩⟩ | ⟨-, h⟩
  · exact .inr (.inl ⟨rfl, .inl (List.eq_nil_of_length_eq_zero h2)⟩)
  rcases ite_eq_cases h with ⟨h3, ⟨⟩⟩ | ⟨-, h⟩
  · exact .inr (.inl ⟨rfl, .inr (List.eq_nil_of_length_eq_zero h3)⟩)
  rcases ite_eq_cases h with ⟨h4, ⟨⟩⟩ | ⟨-, h⟩
  · exact .inr (.inr ⟨rfl, h4⟩)
  -- past the four tests both exits succeed
  rcases ite_eq_cases h with ⟨-, ⟨⟩⟩ | ⟨-, ⟨⟩⟩

/-! ### StripComments -/

/-- what is kept is, in order, exactly the lines that are neither an annotation nor a full-line
comment; what is returned as documentation is, in order, exactly the full-line comments -/
theorem strip_kept (sql : Bytes) :
    (stripComments sql).1 = joinNL ((scanLines (trimSpace sql)).filter (fun t => classifyLine t == .code)) := rfl

/-- a line classified as code fails each of the four tests -/
theorem classifyLine_code {t : Bytes} (h : classifyLine t = .code) :
    hasPrefix pDashName t = false ∧ (hasPrefix pSlashName t && hasSuffixB pStarSlash t) = false ∧
      hasPrefix pDash t = false ∧ (hasPrefix pSlash t && hasSuffixB pStarSlash t) = false := by
  obtain ⟨h1, h⟩ := else_of_ite_eq h nofun
  obtain ⟨h2, h⟩ := else_of_ite_eq h nofun
  obtain ⟨h3, h⟩ := else_of_ite_eq h nofun
  obtain ⟨h4, -⟩ := else_of_ite_eq h nofun
  exact ⟨eq_false_of_ne_true h1, eq_false_of_ne_true h2, eq_false_of_ne_true h3, eq_false_of_ne_true h4⟩

theorem strip_no_comment_survives (sql : Bytes) :
    ∀ l ∈ (scanLines (trimSpace sql)).filter (fun t => classifyLine t == .code),
      hasPrefix pDashName l = false ∧ hasPrefix pDash l = false := fun _ hl =>
  have h := classifyLine_code (eq_of_beq (List.mem_filter.mp hl).2)
  ⟨h.1, h.2.2.1⟩

theorem translator_complete : Gen.untranslatable = [] := rfl

end Sqlc.C04
