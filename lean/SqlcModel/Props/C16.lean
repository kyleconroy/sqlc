import SqlcModel.Driver.Config
import SqlcModel.Gen.ConfigFacts
import SqlcModel.Gen.Untranslatable
/-
C16 — Config front-ends are equivalent and emit options orthogonal (the configuration part).
-/
namespace Sqlc.C16
open Sqlc.Cfg

def fieldNames (l : List (String × String × String × String)) : List String := l.map (·.1)
def tagsOf (l : List (String × String × String × String)) (n : String) : Option (String × String) :=
  (l.find? (·.1 == n)).map (fun f => (f.2.2.1, f.2.2.2))

/-- the documented renamings of Translate() -/
def renamed : List (String × String) := [("Name", "Package"), ("Path", "Out")]
def targetOf (src : String) : String := ((renamed.find? (·.1 == src)).map (·.2)).getD src

/-- O1 (regenerated facts): Translate() is total and faithful —
* every field of a version-1 package flows into the version-2 package exactly once;
* it lands in the field of the same name (Name ↦ Package, Path ↦ Out), Engine/Schema/Queries in `SQL`;
* source and target field carry the same json and yaml keys (except the two renamed ones), so a
  version-2 file written with the same keys means the same thing;
* the top-level overrides and rename flow to the global Go section. -/
theorem translate_total :
    -- every source is a version-1 field and every version-1 field is a source exactly once
    Gen.translateFlows.all (fun f => (fieldNames Gen.v1PackageFields).contains f.2.2) = true ∧
    (fieldNames Gen.v1PackageFields).all (fun n => (Gen.translateFlows.filter (fun f => f.2.2 == n)).length == 1) = true ∧
    -- it lands in the field of the same name (or the documented renaming), in the right struct
    Gen.translateFlows.all (fun f =>
      f.2.1 == targetOf f.2.2 &&
      (if ["Engine", "Schema", "Queries"].contains f.2.2 then f.1 == "SQL" else f.1 == "SQLGo")) = true ∧
    -- source and target field carry the same json / yaml keys
    Gen.translateFlows.all (fun f =>
      (renamed.any (·.1 == f.2.2)) ||
      (let tfields := if f.1 == "SQLGo" then Gen.sqlGoFields else Gen.sqlFields
       tagsOf Gen.v1PackageFields f.2.2 == tagsOf tfields f.2.1 && (tagsOf tfields f.2.1).isSome)) = true ∧
    Gen.translateTopFlows = [("GenGo", "Overrides", "Overrides"), ("GenGo", "Rename", "Rename")] := by
  refine ⟨by decide +kernel, by decide +kernel, by decide +kernel, by decide +kernel, rfl⟩

/-- every json key equals the yaml key of the same field: JSON and YAML files use one vocabulary -/
theorem json_yaml_same_keys :
    (Gen.v1PackageFields ++ Gen.sqlGoFields ++ Gen.sqlFields ++ Gen.v1TopFields).all (fun f => f.2.2.1 == f.2.2.2) = true := by decide +kernel

/-- Combine takes global overrides first, then the package's -/
theorem combine_order : Gen.combineFlows =
    ["cs.Rename <- conf.Gen.Go.Rename", "cs.Overrides <- append(cs.Overrides, conf.Gen.Go.Overrides)",
     "cs.Rename <- conf.Gen.Kotlin.Rename", "cs.Overrides <- append(cs.Overrides, pkg.Gen.Go.Overrides)",
     "cs.Overrides <- append(cs.Overrides, pkg.Gen.Python.Overrides)"] := rfl

/-- C16 (front ends): for EVERY version-1 configuration, combining the translated configuration for
its k-th package gives exactly the settings one reads off the version-1 package: its own options,
global-then-package overrides, the global rename. -/
theorem C16_v1_settings {Ov : Type} (c : V1Config Ov) (p : V1Pkg Ov) (hp : p ∈ c.packages) :
    ∃ q ∈ (translate c).packages,
      (combine (translate c) q).overrides = c.overrides ++ p.overrides ∧
      (combine (translate c) q).rename = c.rename ∧
      (combine (translate c) q).go = { p.opts with package := p.name, out := p.path } :=
  ⟨_, List.mem_map_of_mem hp, List.append_nil _, rfl, rfl⟩

/-- and a hand-written version-2 configuration with the same content combines to the same settings -/
theorem C16_v1_v2_equal {Ov : Type} (c : V1Config Ov) (c2 : Config Ov) (h : c2 = translate c) (q : Pkg Ov) :
    combine c2 q = combine (translate c) q := by rw [h]

/-- packages are combined independently: the settings of one package do not depend on any other
package of the configuration (C15's package-locality, C19) -/
theorem combine_package_local {Ov : Type} (conf conf' : Config Ov) (p : Pkg Ov)
    (h1 : conf.globalOverrides = conf'.globalOverrides) (h2 : conf.globalRename = conf'.globalRename) :
    (combine conf p).overrides = (combine conf' p).overrides ∧ (combine conf p).rename = (combine conf' p).rename := by
  simp [combine, h1, h2]

theorem translator_complete : Gen.untranslatable = [] := rfl

end Sqlc.C16
