import SqlcModel.Text.Migrations
import SqlcModel.Spec.OrderSites
import SqlcModel.Gen.OrderSites
import SqlcModel.Gen.Untranslatable
import SqlcModel.Lemmas.List
/-
C13 — Output is deterministic and independent of declaration order.

Go maps are iterated in random order and `sort.Slice` is not stable. The theorems show that neither
can reach the output: a collection with pairwise distinct sort keys has exactly ONE sorted
arrangement, so whatever order a map range or the input files deliver the items in — and whatever
unstable algorithm sorts them — the sorted result is the same.
-/
namespace Sqlc.C13
open Sqlc

/-- O1: the order-sensitive sites of the current source are exactly the audited ones -/
theorem sites_covered : Gen.mapRangeSites = Spec.auditedMapRanges ∧ Gen.sortSites = Spec.auditedSorts := ⟨rfl, rfl⟩

/-! ### Go's `<` on strings is a total order (bytewise lexicographic) -/

/-- `bytesLE` decides core's lexicographic `≤` on lists of bytes, and so inherits its order laws -/
theorem bytesLE_iff_le : ∀ a b : Bytes, bytesLE a b = true ↔ a ≤ b
  | [], _ => by simp [bytesLE]
  | _ :: _, [] => by simp [bytesLE]
  | x :: xs, y :: ys => by
    rw [bytesLE, List.cons_le_cons_iff, ← bytesLE_iff_le xs ys]
    by_cases h : x = y
    · simp [h, UInt8.lt_irrefl]
    · rcases UInt8.lt_or_lt_of_ne h with h1 | h1 <;> simp [h, h1, UInt8.lt_asymm h1]

theorem bytesLE_refl : ∀ a : Bytes, bytesLE a a = true :=
  fun a => (bytesLE_iff_le a a).mpr (List.le_refl a)

theorem bytesLE_total (a b : Bytes) : (bytesLE a b || bytesLE b a) = true := by
  simpa only [Bool.or_eq_true, bytesLE_iff_le] using List.le_total a b

theorem bytesLE_antisymm (a b : Bytes) : bytesLE a b = true → bytesLE b a = true → a = b := by
  simpa only [bytesLE_iff_le] using List.le_antisymm

theorem bytesLE_trans (a b c : Bytes) : bytesLE a b = true → bytesLE b c = true → bytesLE a c = true := by
  simpa only [bytesLE_iff_le] using List.le_trans

/-! ### one sorted arrangement -/

/-- any two arrangements of the same items that are both sorted by a key with pairwise distinct
values coincide -/
theorem sorted_unique {α : Type} (key : α → Bytes) (l1 l2 : List α)
    (hperm : l1.Perm l2) (hdist : (l1.map key).Nodup)
    (h1 : l1.Pairwise (fun a b => bytesLE (key a) (key b) = true))
    (h2 : l2.Pairwise (fun a b => bytesLE (key a) (key b) = true)) : l1 = l2 :=
  List.Perm.eq_of_pairwise (fun _ _ ha hb hab hba =>
    List.inj_of_nodup_map hdist ha (hperm.symm.subset hb) (bytesLE_antisymm _ _ hab hba)) h1 h2 hperm

/-- what `sort.Slice(xs, func(i, j) bool { return key(xs[i]) < key(xs[j]) })` promises, and nothing
more: some sorted permutation -/
structure SortOracle (α : Type) (key : α → Bytes) where
  sort : List α → List α
  perm : ∀ l, (sort l).Perm l
  sorted : ∀ l, (sort l).Pairwise (fun a b => bytesLE (key a) (key b) = true)

/-- C13 (core): with pairwise distinct keys, ANY two sorting algorithms applied to ANY two orderings of
the same items (two map iteration orders, two orders of the queries in a file, two orders of the
declarations in a schema) return the same list. -/
theorem C13_order_irrelevant {α : Type} (key : α → Bytes) (o1 o2 : SortOracle α key) (l1 l2 : List α)
    (hperm : l1.Perm l2) (hdist : (l1.map key).Nodup) : o1.sort l1 = o2.sort l2 := by
  apply sorted_unique key _ _ _ _ (o1.sorted l1) (o2.sorted l2)
  · exact (o1.perm l1).trans (hperm.trans (o2.perm l2).symm)
  · exact ((o1.perm l1).map key).nodup_iff.mpr hdist

/-- the executable model's sort (merge sort) is one such oracle -/
def mergeOracle {α : Type} (key : α → Bytes) : SortOracle α key where
  sort l := l.mergeSort (fun a b => bytesLE (key a) (key b))
  perm l := List.mergeSort_perm l _
  sorted l := by
    have := List.pairwise_mergeSort (le := fun a b => bytesLE (key a) (key b))
      (fun a b c h1 h2 => bytesLE_trans _ _ _ h1 h2) (fun a b => bytesLE_total _ _) l
    simpa using this

/-- reordering the annotated queries of a file (distinct names by C11.names_nodup) leaves the sorted
query list — hence every output byte derived from it — unchanged -/
theorem C13_query_permutation {α : Type} (name : α → Bytes) (qs qs' : List α)
    (hperm : qs.Perm qs') (hdist : (qs.map name).Nodup) :
    (mergeOracle name).sort qs = (mergeOracle name).sort qs' :=
  C13_order_irrelevant name _ _ qs qs' hperm hdist

/-- the hypothesis `hdist` is not an artefact of the proof: with two items under one key the (stable) sort
keeps the order it was given, so two orderings of the same items give two results. sqlc reaches this point
when two tables get one struct name (`item` / `items` → `Item`): recorded finding dupStructOrder. -/
theorem C13_distinct_keys_needed :
    ∃ (l1 l2 : List (Bytes × Nat)), l1.Perm l2 ∧
      (mergeOracle (α := Bytes × Nat) (·.1)).sort l1 ≠ (mergeOracle (α := Bytes × Nat) (·.1)).sort l2 := by
  refine ⟨[(b! "Item", 0), (b! "Item", 1)], [(b! "Item", 1), (b! "Item", 0)], .swap .., ?_⟩
  show List.mergeSort _ _ ≠ List.mergeSort _ _
  -- under the one key each list is already sorted, and merge sort returns a sorted list as it is
  rw [List.mergeSort_of_pairwise (by decide), List.mergeSort_of_pairwise (by decide)]
  decide

/-- non-vacuity -/
example : bytesLE (b! "GetAuthor") (b! "ListAuthors") = true ∧ bytesLE (b! "ListAuthors") (b! "GetAuthor") = false := by decide

theorem translator_complete : Gen.untranslatable = [] := rfl

end Sqlc.C13
