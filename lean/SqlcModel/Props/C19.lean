import SqlcModel.Driver.Isolation
import SqlcModel.Gen.Sites
import SqlcModel.Gen.Untranslatable
/-
C19 — Packages are compiled in isolation; concurrent runs do not interfere.
-/
namespace Sqlc.C19
open Sqlc.Drv

/-- O1 (regenerated): no function reachable from cmd.Generate assigns to, locks, or takes the address
of a package-level variable (outside `init` and the declarations themselves) -/
theorem no_global_writes : Gen.globalWrites = [] := rfl

/-- run `i`'s final local state depends only on how many steps run `i` took -/
theorem exec_local {L G : Type} (s : Sys L G) (g : G) : ∀ (sched : List Nat) (locals : Nat → L) (i : Nat),
    s.exec g sched locals i = iter (fun l => s.step i l g) (sched.count i) (locals i)
  | [], _, _ => rfl
  | j :: rest, locals, i => by
    rw [Sys.exec, exec_local s g rest _ i, List.count_cons]
    by_cases h : j = i
    · subst h; simp [iter]
    · simp [h, Ne.symm h]

/-- C19 (non-interference): any two interleavings in which every run performs the same number of
steps leave every run with the same local state — in particular the fully serial schedule. Unbounded
in the number of runs and steps. -/
theorem C19_noninterference {L G : Type} (s : Sys L G) (g : G) (s1 s2 : List Nat) (locals : Nat → L)
    (h : ∀ i, s1.count i = s2.count i) : s.exec g s1 locals = s.exec g s2 locals := by
  funext i
  rw [exec_local, exec_local, h i]

/-- the serial schedule of runs 0..n-1 with `k i` steps each is one such interleaving -/
def serial (k : Nat → Nat) : Nat → List Nat
  | 0 => []
  | n + 1 => serial k n ++ List.replicate (k n) n

example {L G : Type} (s : Sys L G) (g : G) (locals : Nat → L) :
    s.exec g [0, 1, 0, 1, 1] locals = s.exec g (serial (fun i => if i = 0 then 2 else 3) 2) locals :=
  C19_noninterference s g _ _ locals fun i => List.Perm.count_eq (by decide) i

/-! ### isolation inside one run -/

/-- inserting a package's files leaves entries under other keys alone -/
theorem mem_insertFiles_other (out fs : Files) (k v : String) (hk : ∀ kv ∈ fs, kv.1 ≠ k) :
    (k, v) ∈ insertFiles out fs ↔ (k, v) ∈ out := by
  induction fs generalizing out with
  | nil => exact Iff.rfl
  | cons kv rest ih =>
    have hne : k ≠ kv.1 := (hk kv List.mem_cons_self).symm
    have hne' : (k, v) ≠ kv := fun e => hne (e ▸ rfl)
    rw [insertFiles, List.foldl_cons, ← insertFiles, ih _ fun x hx => hk x (List.mem_cons_of_mem _ hx)]
    simp [hne, hne']

theorem unionFiles_append (ps qs : List PkgOutcome) (out : Files) :
    unionFiles (ps ++ qs) out = unionFiles qs (unionFiles ps out) := by
  induction ps generalizing out with
  | nil => rfl
  | cons p ps ih => cases p <;> exact ih _

/-- packages that write no file under `k` leave the entries under `k` alone -/
theorem mem_unionFiles_other (k v : String) (ps : List PkgOutcome) (out : Files)
    (h : ∀ p ∈ ps, ∀ k' ∈ keysOf p, k' ≠ k) : (k, v) ∈ unionFiles ps out ↔ (k, v) ∈ out := by
  induction ps generalizing out with
  | nil => exact Iff.rfl
  | cons p ps ih =>
    obtain ⟨hp, hps⟩ := List.forall_mem_cons.mp h
    cases p with
    | ok gs =>
      rw [unionFiles, ih _ hps]
      exact mem_insertFiles_other out gs k v fun kv hkv => hp kv.1 (List.mem_map_of_mem hkv)
    | parseFail => exact ih out hps
    | genFail => exact ih out hps

/-- C19 (isolation, one direction): in a run in which every package is fine, a file under a key that
no LATER package writes is exactly what its own package generated there — whatever the other packages
declare, and in particular for every order of a list of packages with pairwise disjoint output
directories. -/
theorem C19_isolation (pre post : List PkgOutcome) (fs : Files) (k v : String)
    (hpost : ∀ p ∈ post, ∀ k' ∈ keysOf p, k' ≠ k) (out : Files) :
    (k, v) ∈ unionFiles (pre ++ .ok fs :: post) out ↔ (k, v) ∈ insertFiles (unionFiles pre out) fs := by
  rw [unionFiles_append]
  exact mem_unionFiles_other k v post _ hpost

theorem translator_complete : Gen.untranslatable = [] := rfl

end Sqlc.C19
