import SqlcModel.Text.Migrations
import SqlcModel.Spec.Migrations
import SqlcModel.Gen.Untranslatable
import SqlcModel.Lemmas.Basics
/-
C14 — Migration files: rollback parts ignored, lexical order, split-invariant.
Property theorems only.
-/
namespace Sqlc.C14
open Sqlc

/-- O1 (translator obligation): the literals in the Go source are the documented ones. -/
theorem markers_are_documented : Gen.rollbackMarkersB = Spec.docMarkers := rfl
theorem suffixes_are_documented :
    Gen.globSuffixB = Spec.docSqlSuffix ∧ Gen.downSuffixB = Spec.docDownSuffix ∧
    Gen.globHiddenPrefixB = Spec.docHiddenPrefix := ⟨rfl, rfl, rfl⟩

/-- a near-miss line: starts with a marker's characters but is not a marker line
(the known finding `Trig_markerPrefix`) -/
def nearMiss (l : Bytes) : Bool := isMarker l && !Spec.isMarkerLine l

theorem markerLine_isMarker (l : Bytes) (h : Spec.isMarkerLine l = true) : isMarker l = true := by
  unfold Spec.isMarkerLine at h
  unfold isMarker
  rw [markers_are_documented]
  simp only [List.any_eq_true, Bool.and_eq_true] at h ⊢
  obtain ⟨m, hm, hp, _⟩ := h
  exact ⟨m, hm, hp⟩

/-- FULL statement: the kept text is exactly the lines before the first rollback-marker line. -/
def C14_rollback_full : Prop :=
  ∀ s : Bytes, removeRollback s = joinNL (Spec.upLines (scanLines s))

/-- PARTIAL (proved): the full statement holds for every file without a near-miss line. -/
theorem C14_rollback_partial (s : Bytes) (h : ∀ l ∈ scanLines s, nearMiss l = false) :
    removeRollback s = joinNL (Spec.upLines (scanLines s)) := by
  -- on a line that is no near miss the code's test and the documented one agree
  refine congrArg joinNL (takeWhile_congr fun l hl => congrArg (!·) ?_)
  have := h l hl
  cases hs : Spec.isMarkerLine l
  · simpa [nearMiss, hs] using this
  · exact markerLine_isMarker l hs

/-- witness that the hypothesis is forced: a near-miss line cuts the file (decided on the model). -/
def wNearMiss : Bytes := b! "CREATE TABLE a (id int);\n-- +goose Downgrade notes\nCREATE TABLE b (id int);"
theorem C14_rollback_witness :
    (removeRollback wNearMiss == joinNL (Spec.upLines (scanLines wNearMiss))) = false := by decide +kernel

/-- non-vacuity: a real migration with a marker satisfies the hypothesis and is cut. -/
def wGoose : Bytes := b! "-- +goose Up\nCREATE TABLE a (id int);\n-- +goose Down\nDROP TABLE a;\n"
example : (scanLines wGoose).all (fun l => !nearMiss l) = true ∧
    removeRollback wGoose = b! "-- +goose Up\nCREATE TABLE a (id int);" := by decide +kernel

/-- nothing that survives is a marker line; nothing before the first marker is lost -/
theorem C14_no_marker_survives (s : Bytes) :
    ∀ l ∈ (scanLines s).takeWhile (fun l => !isMarker l), Spec.isMarkerLine l = false := by
  intro l hl
  have := List.all_eq_true.mp List.all_takeWhile l hl
  cases hsl : Spec.isMarkerLine l with
  | false => rfl
  | true => simp [markerLine_isMarker l hsl] at this

theorem C14_unmarked_untouched (s : Bytes) (h : ∀ l ∈ scanLines s, isMarker l = false) :
    removeRollback s = joinNL (scanLines s) := by
  refine congrArg joinNL ?_
  simpa using List.takeWhile_append_of_pos (p := fun l => !isMarker l) (l₂ := []) fun l hl => by simp [h l hl]

/-! ### file selection -/

/-- Glob keeps exactly the expanded entries that pass the documented filter, in order. -/
def docKeep (p : Bytes) : Bool :=
  hasSuffix Spec.docSqlSuffix p && !(Spec.docHiddenPrefix.isPrefixOf (baseName p)) &&
  !(hasSuffix Spec.docDownSuffix (baseName p))

theorem keepFile_eq_docKeep : keepFile = docKeep := by
  funext p
  unfold keepFile docKeep isDown
  rw [suffixes_are_documented.1, suffixes_are_documented.2.1, suffixes_are_documented.2.2]

theorem C14_glob_filter (stat : Bytes → PathKind) (paths : List Bytes) :
    glob stat paths = (expandPaths stat paths).map (·.filter docKeep) := by
  unfold glob; rw [keepFile_eq_docKeep]

/-- the expansion of `ps ++ qs` is that of `ps` followed by that of `qs`; the first missing path is the error -/
theorem expandPaths_append_eq (stat : Bytes → PathKind) (ps qs : List Bytes) :
    expandPaths stat (ps ++ qs) = (expandPaths stat ps).bind fun a => (expandPaths stat qs).map (a ++ ·) := by
  induction ps with
  | nil => cases h : expandPaths stat qs <;> simp [expandPaths, Except.bind, Except.map, h]
  | cons p ps ih =>
    rw [List.cons_append, expandPaths, expandPaths, ih]
    cases expandPaths stat ps <;> cases expandPaths stat qs <;> cases stat p <;> simp [Except.bind, Except.map]

/-- listed paths keep list order: the expansion of `ps ++ qs` is the concatenation -/
theorem expandPaths_append (stat : Bytes → PathKind) (ps qs : List Bytes) (a b : List Bytes)
    (ha : expandPaths stat ps = .ok a) (hb : expandPaths stat qs = .ok b) :
    expandPaths stat (ps ++ qs) = .ok (a ++ b) := by
  rw [expandPaths_append_eq, ha, hb]
  rfl

/-! ### split invariance of the catalog fold -/

theorem applyStmts_append {σ α ε : Type} (upd : σ → α → Except ε σ) (st : σ × List ε) (a b : List α) :
    applyStmts upd st (a ++ b) = applyStmts upd (applyStmts upd st a) b := by
  unfold applyStmts; rw [List.foldl_append]

/-- Cutting a history into consecutive files at statement boundaries never changes the catalog nor
the error list: `parseCatalog` over the files = one pass over their concatenation. -/
theorem C14_split_invariant {σ α ε : Type} (upd : σ → α → Except ε σ) (c : σ) (files : List (List α)) :
    parseCatalogFiles upd c files = applyStmts upd (c, []) files.flatten := by
  unfold parseCatalogFiles applyStmts
  rw [List.foldl_flatten]

/-- hence two arrangements of the same history agree, and empty files are irrelevant -/
theorem C14_arrangements_agree {σ α ε : Type} (upd : σ → α → Except ε σ) (c : σ)
    (f1 f2 : List (List α)) (h : f1.flatten = f2.flatten) :
    parseCatalogFiles upd c f1 = parseCatalogFiles upd c f2 := by
  rw [C14_split_invariant, C14_split_invariant, h]

/-- translator fail-closed obligation -/
theorem translator_complete : Gen.untranslatable = [] := rfl

end Sqlc.C14
