import SqlcModel.Lemmas.GoGen
import SqlcModel.Lemmas.List
import SqlcModel.Gen.ImportFacts
import SqlcModel.Gen.TemplateFacts
import SqlcModel.Gen.Untranslatable
/-
C01 — Generated Go package always compiles.

Whether a Go package compiles is decided by the Go type checker; the correspondence stream therefore runs
go/parser, go/format and go/types (source importer) on every emitted package (harness/c01.go). What Lean
proves are the pieces of the generator that are tables and loops, regenerated from /repo on every run:

* `C01_imports_present` — for each of the three per-file import functions (modelImports, interfaceImports,
  queryImports) and every Go type an arm of postgresType / mysqlType can answer: if the type is
  package-qualified, some rule of that function matches it (strings.HasPrefix on the "[]"-trimmed type)
  and imports a package whose name is that qualifier. So no engine type can be used without its import;
* `C01_imports_needed` — conversely every rule's prefix is itself qualified by the last path element of the
  package it imports, and (`qualifier_of_prefix`) every type a rule matches carries the same qualifier: a
  rule never fires for a type that does not use its package;
* `C01_rules_agree` — the three functions have the same rules (queryImports additionally the slice-scan
  rule), so a type is treated the same in every file;
* `C01_fields_distinct_partial` — columnsToStruct: when the Go names of the columns are pairwise distinct no
  suffix is applied and the fields are exactly those names, hence distinct;
* `C01_querier_assertion`, `C01_fixed_idents` — the interface template asserts `var _ Querier = (*Queries)(nil)`
  (regenerated fact) and the identifiers the templates declare unconditionally.

The full statement is FALSE of the unchanged code: the recorded findings (paramEqColumn — named in the
property text —, casingCollision, singularCollision, enumLabelCollision, enumLabelEmpty, renameCollision,
helperMethodName, constReceiverClash, columnNamedLikeLocal) are inputs for which generation succeeds and the
package does not type-check. None of them is in the scope of the theorems above: they concern identifier
derivation across SEVERAL declarations, which sqlc never checks.
-/
namespace Sqlc.C01
open Sqlc Sqlc.GoGen

/-- the package qualifier of a Go type spelled `pkg.Name` (after trimming a leading "[]") -/
def trimSlice : List Char → List Char
  | '[' :: ']' :: rest => rest
  | l => l

def qualifierOf (l : List Char) : Option (List Char) :=
  if l.contains '.' then some (l.takeWhile (· != '.')) else none

/-- the package name an import path brings into scope: its last element -/
def lastSegment (p : List Char) : List Char :=
  (p.reverse.takeWhile (· != '/')).reverse

def rulesOf (fn : String) : List (List Char × List Char) :=
  match Gen.importRules.find? (·.1 == fn) with
  | some (_, rs) => rs
  | none => []

def covered (fn : String) (ty : List Char) : Bool :=
  match qualifierOf (trimSlice ty) with
  | none => true
  | some q => (rulesOf fn).any (fun r => r.1.isPrefixOf (trimSlice ty) && lastSegment r.2 == q)

theorem C01_imports_present :
    ∀ fn ∈ ["modelImports", "interfaceImports", "queryImports"], ∀ ty ∈ Gen.armGoTypes, covered fn ty = true := by
  decide +kernel

theorem C01_imports_needed :
    ∀ fn ∈ ["modelImports", "interfaceImports", "queryImports"], ∀ r ∈ rulesOf fn,
      r.1 = ['[', ']'] ∨ qualifierOf r.1 = some (lastSegment r.2) := by
  decide +kernel

/-- every type a qualified rule matches carries the rule's qualifier -/
theorem qualifier_of_prefix (p t : List Char) (q : List Char) (h : p.isPrefixOf t = true) (hq : qualifierOf p = some q) :
    qualifierOf t = some q := by
  obtain ⟨s, rfl⟩ := List.isPrefixOf_iff_prefix.mp h
  unfold qualifierOf at hq ⊢
  split at hq
  · rename_i hd
    have hm : '.' ∈ p := List.contains_iff_mem.mp hd
    rw [if_pos (List.contains_iff_mem.mpr (List.mem_append_left s hm)), List.takeWhile_append_of_mem hm (by simp)]
    exact hq
  · cases hq

theorem C01_rules_agree :
    rulesOf "modelImports" = rulesOf "interfaceImports" ∧
    rulesOf "queryImports" = (['[', ']'], "github.com/lib/pq".toList) :: rulesOf "modelImports" := by
  decide +kernel

theorem C01_querier_assertion : Gen.templateHasQuerierAssertion = true := rfl

theorem C01_fixed_idents :
    ∀ n ∈ ["Close", "DBTX", "New", "Prepare", "Querier", "Queries", "WithTx"], n ∈ Gen.templateFixedIdents := by decide +kernel

/-! ### columnsToStruct without duplicates -/

def baseName (env : TypeEnv) (c : GoColumn) (i : Nat) : String := structName env.rename (columnName c.col.name i)

/-- a column whose name has not been seen and whose id has no suffix on record gets its plain name -/
theorem c2sLoop_cons_fresh (env : TypeEnv) (c : GoColumn) (rest : List GoColumn) (i : Nat) (seen : List (String × Nat))
    (sfx : List (Nat × Nat)) (hseen : lookupStr seen (columnName c.col.name i) = 0)
    (hsfx : lookupNat sfx c.id = none ∨ lookupNat sfx c.id = some 0) :
    c2sLoop env (c :: rest) i seen sfx =
      { name := baseName env c i, type := goType env (toTypeColumn c.col), dbTag := columnName c.col.name i } ::
        c2sLoop env rest (i + 1) (bump seen (columnName c.col.name i)) (setNat sfx c.id 0) := by
  rcases hsfx with h | h <;> simp [c2sLoop, h, hseen, baseName]

/-- with pairwise distinct column names no suffix is ever chosen: one field per column, named by structName
of the column name and tagged with the column name -/
theorem c2sLoop_of_nodup (env : TypeEnv) (cols : List GoColumn) (i : Nat) (seen : List (String × Nat)) (sfx : List (Nat × Nat))
    (hnd : ((cols.zipIdx i).map (fun ci => columnName ci.1.col.name ci.2)).Nodup)
    (hseen : ∀ ci ∈ cols.zipIdx i, ∀ e ∈ seen, e.1 ≠ columnName ci.1.col.name ci.2) (hsfx : ∀ e ∈ sfx, e.2 = 0) :
    c2sLoop env cols i seen sfx = (cols.zipIdx i).map (fun ci =>
      { name := baseName env ci.1 ci.2, type := goType env (toTypeColumn ci.1.col), dbTag := columnName ci.1.col.name ci.2 }) := by
  induction cols generalizing i seen sfx with
  | nil => rfl
  | cons c cs ih =>
    rw [List.zipIdx_cons] at hnd hseen ⊢
    rw [List.map_cons, List.nodup_cons] at hnd
    rw [c2sLoop_cons_fresh env c cs i seen sfx (lookupStr_of_fresh (hseen (c, i) List.mem_cons_self))
      (lookupNat_vals c.id hsfx)]
    refine congrArg (_ :: ·) (ih (i + 1) _ _ hnd.2 (fun ci hci => ?_) (setNat_vals hsfx))
    exact bump_fresh (hseen ci (List.mem_cons_of_mem _ hci)) fun heq => hnd.1 (List.mem_map.mpr ⟨ci, hci, heq.symm⟩)

theorem c2sLoop_no_suffix (env : TypeEnv) : ∀ (cols : List GoColumn) (i : Nat) (seen : List (String × Nat)) (sfx : List (Nat × Nat)),
    ((cols.zipIdx i).map (fun ci => columnName ci.1.col.name ci.2)).Nodup →
    (∀ ci ∈ cols.zipIdx i, ∀ e ∈ seen, e.1 ≠ columnName ci.1.col.name ci.2) →
    (∀ e ∈ sfx, e.2 = 0) →
    (c2sLoop env cols i seen sfx).map (·.name) = (cols.zipIdx i).map (fun ci => baseName env ci.1 ci.2) := by
  intro cols i seen sfx hnd hseen hsfx
  rw [c2sLoop_of_nodup env cols i seen sfx hnd hseen hsfx, List.map_map]
  rfl

theorem C01_fields_distinct_partial (env : TypeEnv) (name : String) (cols : List GoColumn)
    (hcols : ((cols.zipIdx).map (fun ci => columnName ci.1.col.name ci.2)).Nodup)
    (hbase : ((cols.zipIdx).map (fun ci => baseName env ci.1 ci.2)).Nodup) :
    ((columnsToStruct env name cols).fields.map (·.name)).Nodup := by
  rw [columnsToStruct, c2sLoop_no_suffix env cols 0 [] [] hcols (fun _ _ _ h => nomatch h) (fun _ h => nomatch h)]
  exact hbase

theorem translator_complete : Gen.untranslatable = [] := rfl

end Sqlc.C01
