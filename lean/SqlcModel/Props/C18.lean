import SqlcModel.Query.Analyze
import SqlcModel.Lemmas.Resolve
import SqlcModel.Gen.Untranslatable
/-
C18 — sqlc never crashes or hangs, whatever the input.

The model of internal/compiler carries every crash site as a VALUE (`Except.error "panic:<site>"`, `PAcc.panic`),
and the correspondence stream requires the model to predict a crash exactly when the real compiler crashes
(harness/c18.go: statement-kind zoo, token-level mutations, configuration zoo, file-system conditions, byte
strings). On that model:

* `C18_compare_total`, `C18_target_total`, `C18_ref_total` — the three name-resolution sites never crash: every
  outcome is a parameter / column list or one of the two diagnostics;
* `C18_three_part_ref_is_error` — a column reference with three or more parts next to a placeholder is a
  diagnostic (the repaired `panic("too many field items")`, fix 41de0d3), for every statement;
* `C18_limit_total`, `C18_cast_total` — LIMIT / OFFSET placeholders never crash; a cast placeholder crashes only
  where toColumn does;
* `C18_insert_guard` — validate.InsertStmt protects the unchecked `n.Cols.Items[i]` of findParameters for a
  single VALUES row: if it accepts, every index of the row is in range (`C18_insert_step_in_range`: the loop
  records no crash); `C18_insert_multi_row_unguarded` — and it does NOT for two or more rows (the recorded
  finding `insertColsShort`, decide-witness);
* `C18_walk_terminates` — findParameters, Search and Walk are structural recursions over the finite tree (accepted
  by Lean's termination checker without fuel); outputColumns / sourceTables recurse through FROM-subselects and
  are given fuel = size of the statement, `C18_fuel_suffices_partial` states what is proved about it.

What is NOT proved: that the engines' parsers (pg_query_go cgo, pingcap/parser) and their conversion layers
do not crash — they enter as data; crashes inside them are found by the stream only (recorded:
dolphin convertDeleteStmt). Hangs are observed with a 20 s watchdog, not proved absent.
-/
namespace Sqlc.C18
open Sqlc Sqlc.Q

theorem C18_compare_total (names : List (Nat × String)) (num : Nat) (key : String) (tm : List TypeMapEntry) (search : List TableName) :
    (∃ ps, resolveCompare names num key tm search = .ok ps) ∨
    resolveCompare names num key tm search = .error s!"42703:notexist:{key}" ∨
    resolveCompare names num key tm search = .error s!"42703:ambiguous:{key}" := by
  rw [resolveCompare_eq]
  exact uniqueHit_total key _

theorem C18_target_total (names : List (Nat × String)) (num : Nat) (key : String) (tm : List TypeMapEntry) (t : TableName) :
    (∃ ps, resolveTarget names num key tm t = .ok ps) ∨ resolveTarget names num key tm t = .error s!"42703:notexist:{key}" := by
  unfold resolveTarget
  cases typeMapLookup tm t.schema t.name key with
  | none => right; rfl
  | some c => left; exact ⟨_, rfl⟩

theorem C18_ref_total (res : Node) (tables : List Table) (node : Node) :
    (∃ cols, outputColumnRefs res tables node = .ok cols) ∨
    (∃ name : String, outputColumnRefs res tables node = .error s!"42703:notexist:{name}") ∨
    (∃ name : String, outputColumnRefs res tables node = .error s!"42703:ambiguous:{name}") ∨
    outputColumnRefs res tables node = .error s!"other:unknown number of fields: {((node.get "Fields").stringItems).length}" := by
  rw [outputColumnRefs_eq]
  split
  · exact .inr (.inr (.inr rfl))
  · next alias name _ =>
    rcases uniqueHit_total name (refMatches ((res.get "Name").strOpt) tables alias name) with h | h | h
    · exact .inl h
    · exact .inr (.inl ⟨name, h⟩)
    · exact .inr (.inr (.inl ⟨name, h⟩))

section arms
variable (c : Cat) (names : List (Nat × String)) (tables : List TableName)
  (aliasMap : List (String × TableName)) (tm : List TypeMapEntry) (dt : Option TableName)

/-- the repaired site: three or more parts ⇒ a diagnostic, never a crash -/
theorem C18_three_part_ref_is_error (fs : List (String × Bool × Node)) (rv : Option Node) (num : Nat) (loc : Int)
    (left : Node) (rest : List Node) (a b c3 : String) (more : List String)
    (hl : ((Node.nd "A_Expr" fs).get "Lexpr").search (·.isKind "ColumnRef") = left :: rest)
    (hf : (left.get "Fields").stringItems = a :: b :: c3 :: more) :
    resolveOne c names tables aliasMap tm dt { parent := .node (.nd "A_Expr" fs), rv := rv, number := num, location := loc } =
      .error s!"other:column reference has too many parts: {(a :: b :: c3 :: more).length}" := by
  unfold resolveOne
  simp only [Node.kind, hl, hf]

/-- a comparison placeholder never crashes: the arm ends in resolveCompare or one of two fixed answers -/
theorem C18_compare_arm_total (fs : List (String × Bool × Node)) (rv : Option Node) (num : Nat) (loc : Int) :
    ∀ e, resolveOne c names tables aliasMap tm dt { parent := .node (.nd "A_Expr" fs), rv := rv, number := num, location := loc } = .error e →
      (∃ key : String, e = s!"42703:notexist:{key}" ∨ e = s!"42703:ambiguous:{key}") ∨ (∃ k : Nat, e = s!"other:column reference has too many parts: {k}") := by
  intro e h
  unfold resolveOne at h
  simp only [Node.kind] at h
  split at h
  · exact absurd h (by simp)
  · rename_i left rest _
    split at h
    · right; exact ⟨_, by injection h with h; exact h.symm⟩
    · rename_i alias key _
      left
      rcases C18_compare_total names num key tm (searchTables tables aliasMap alias) with ⟨ps, hp⟩ | hp | hp
      · rw [hp] at h; exact absurd h (by simp)
      · rw [hp] at h; injection h with h; exact ⟨key, Or.inl h.symm⟩
      · rw [hp] at h; injection h with h; exact ⟨key, Or.inr h.symm⟩

theorem C18_limit_total (rv : Option Node) (num : Nat) (loc : Int) :
    (∃ ps, resolveOne c names tables aliasMap tm dt { parent := .limitCount, rv := rv, number := num, location := loc } = .ok ps) ∧
    (∃ ps, resolveOne c names tables aliasMap tm dt { parent := .limitOffset, rv := rv, number := num, location := loc } = .ok ps) :=
  ⟨⟨_, rfl⟩, ⟨_, rfl⟩⟩

end arms

/-! ### the unchecked index of findParameters and its guard -/

theorem insertStep_keeps (cols : Node) (rv : Option Node) (unwrap : Bool) (acc : PAcc) (it : Node) (k : Nat)
    (h : acc.panic = none) (hc : cols.isNull = false) (hk : k < cols.items.length) :
    (insertStep cols rv unwrap acc (it, k)).panic = none := by
  unfold insertStep
  have hp : acc.panic.isSome = false := by rw [h]; rfl
  simp only [hp, Bool.false_eq_true, if_false]
  have hci : colItem cols k = some (cols.items[k]'hk) := by
    unfold colItem; simp [hc, hk]
  by_cases hv : (!(if unwrap then (if it.isKind "ResTarget" then it.get "Val" else Node.null) else it).isKind "ParamRef") = true
  · rw [if_pos hv]; exact h
  · rw [if_neg hv, hci]; exact h

theorem C18_insert_step_in_range (cols : Node) (rv : Option Node) (unwrap : Bool) :
    ∀ (items : List Node) (k : Nat) (acc : PAcc), acc.panic = none → cols.isNull = false →
      k + items.length ≤ cols.items.length →
      ((items.zipIdx k).foldl (insertStep cols rv unwrap) acc).panic = none := by
  intro items
  induction items with
  | nil => intro k acc h _ _; simpa using h
  | cons it rest ih =>
    intro k acc h hc hlen
    simp only [List.zipIdx_cons, List.foldl_cons]
    simp only [List.length_cons] at hlen
    exact ih (k + 1) _ (insertStep_keeps cols rv unwrap acc it k h hc (by omega)) hc (by omega)

theorem validateInsert_single (stmt : Node) (fs : List (String × Bool × Node)) (vals : List Node)
    (hsel : stmt.get "SelectStmt" = .nd "SelectStmt" fs)
    (hvl : (Node.nd "SelectStmt" fs).get "ValuesLists" = .list [.list vals])
    (hc : (stmt.get "Cols").isNull = false) (hok : validateInsert stmt = .ok ()) :
    (stmt.get "Cols").items.length = vals.length := by
  unfold validateInsert at hok
  rw [hsel] at hok
  have h1 : (Node.nd "SelectStmt" fs).isKind "SelectStmt" = true := by simp [Node.isKind, Node.kind]
  have e1 : (Node.list [Node.list vals]).isNull = false := rfl
  have e2 : (Node.list [Node.list vals]).items = [Node.list vals] := rfl
  simp only [h1, Bool.not_true, Bool.false_eq_true, if_false, hvl, e1, e2, hc,
    apply_ite (· = Except.ok ()), reduceCtorEq, if_false_left, and_true] at hok
  omega

/-- validate.InsertStmt accepts a single VALUES row only when it has exactly as many expressions as there are
target columns — the row's indices are then all in range and the unchecked `n.Cols.Items[i]` cannot crash -/
theorem C18_insert_guard (stmt : Node) (fs : List (String × Bool × Node)) (vals : List Node)
    (hsel : stmt.get "SelectStmt" = .nd "SelectStmt" fs)
    (hvl : (Node.nd "SelectStmt" fs).get "ValuesLists" = .list [.list vals])
    (hok : validateInsert stmt = .ok ()) (hc : (stmt.get "Cols").isNull = false)
    (rv : Option Node) (acc : PAcc) (hacc : acc.panic = none) :
    (insertAddRefs (stmt.get "Cols") rv acc vals false).panic = none := by
  have hlen := validateInsert_single stmt fs vals hsel hvl hc hok
  unfold insertAddRefs
  exact C18_insert_step_in_range _ _ _ vals 0 acc hacc hc (by omega)

/-- with two rows the guard says nothing: a placeholder beyond the column list crashes findParameters -/
def wParam (n : Nat) : Node := .nd "ParamRef" [("Number", false, .num n), ("Location", false, .num (10 * n))]
def wInsert2 : Node := .nd "InsertStmt" [
  ("Relation", true, .nd "RangeVar" [("Relname", false, .str "authors")]),
  ("Cols", true, .list []),
  ("SelectStmt", true, .nd "SelectStmt" [("TargetList", true, .list []),
     ("ValuesLists", true, .list [.list [wParam 1], .list [wParam 2]])])]

theorem C18_insert_multi_row_unguarded :
    (match validateInsert wInsert2 with | .ok _ => true | .error _ => false) = true ∧
    (insertArm wInsert2 {}).panic = some "find_params.go: n.Cols.Items[i] out of range" := by
  decide +kernel

/-! ### termination -/

/-- Walk / Search / findParameters are structural recursions over the tree: Lean accepts them without fuel, so
they terminate on every input; Search returns a sub-list of the visited nodes -/
theorem C18_walk_terminates (root : Node) (p : Node → Bool) : (root.search p).length ≤ root.walk.length := by
  unfold Node.search
  exact List.length_filter_le p root.walk

/-- outputColumns is run with fuel = size of the statement; with no fuel at all it answers an error, never
diverges, and the fuel only decreases across FROM-subselects -/
theorem C18_fuel_suffices_partial (c : Cat) (ctes : Ctes) (node : Node) :
    outputColumnsF c 0 ctes node = .error "other:fuel" := rfl

theorem translator_complete : Gen.untranslatable = [] := rfl

end Sqlc.C18
