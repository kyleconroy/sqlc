import SqlcModel.GoGen.Types
import SqlcModel.Config.GoTypeParse
import SqlcModel.Gen.ImportFacts
import SqlcModel.Gen.Untranslatable
/-
C15 — Type overrides and renames apply exactly where specified.

Proved on the model of goType / goInnerType (the two override loops) and of GoType.Parse:

* `C15_precedence` — the two loops compute exactly the precedence specification: a column override naming
  this (table, column) wins wherever it stands in the list; otherwise the first db_type override of this
  type whose `nullable` matches; otherwise the engine's type; array-ness wraps the last two only;
* `C15_column_hit`, `C15_dbtype_hit` — an applicable override yields its Go type;
* `C15_frame` — an override that names another column (or another table's same-named column, or another
  type, or the other nullability) changes nothing: the column's Go type is what it is without that entry;
* `C15_engine_ignores_overrides` — the engine type (no override applicable) does not depend on the override list;
* `C15_same_everywhere` — goType is a function of the column record: model field, result field and parameter of
  one column get the same Go type whenever the compiler hands goType equal records (that it does is C05 / C06);
* GoType.Parse: `C15_parse_import_is_prefix` / `C15_parse_pointer_object` (a pointer override's type name keeps the
  star, its import path does not), `C15_parse_basic`, `C15_parse_object_import`;
* `C15_std_not_reimported` is NOT claimed: custom-import emission (`(!alreadyImported || hasAlias) && uses`) is
  decided end to end by type-checking the emitted packages (an unused or missing import is a compile error).
-/
namespace Sqlc.C15
open Sqlc Sqlc.GoGen Sqlc.Config

def colMatch (env : TypeEnv) (col : Column) (o : Override) : Bool :=
  o.goTypeName != "" && o.column != "" && o.columnName == col.name && sameTableName col.table o.table env.defaultSchema

def dbMatch (col : Column) (o : Override) : Bool :=
  o.goTypeName != "" && o.dbType != "" && o.dbType == col.dataType && o.nullable != (col.notNull || col.isArray)

/-- the engine's own answer -/
def engineType (env : TypeEnv) (col : Column) : String :=
  if env.engine == "mysql" then mysqlType env col
  else if env.engine == "postgresql" then postgresType env col
  else "interface{}"

/-- the precedence specification -/
def specType (env : TypeEnv) (col : Column) : String :=
  match (env.overrides.filter (colMatch env col)).head? with
  | some o => o.goTypeName
  | none =>
    let inner := match (env.overrides.filter (dbMatch col)).head? with
      | some o => o.goTypeName
      | none => engineType env col
    if col.isArray then Gen.arrayPrefix ++ inner else inner

/-- the two override loops return the first applicable entry -/
theorem columnOverride_eq (env : TypeEnv) (col : Column) :
    columnOverride env col = (env.overrides.filter (colMatch env col)).head?.map (·.goTypeName) := by
  rw [List.head?_filter]; rfl

theorem dbTypeOverride_eq (ovs : List Override) (col : Column) :
    dbTypeOverride ovs col.dataType (col.notNull || col.isArray) = (ovs.filter (dbMatch col)).head?.map (·.goTypeName) := by
  rw [List.head?_filter]; rfl

theorem goInner_eq (env : TypeEnv) (col : Column) :
    goInnerType env col = (match (env.overrides.filter (dbMatch col)).head? with
      | some o => o.goTypeName
      | none => engineType env col) := by
  simp only [goInnerType, dbTypeOverride_eq, engineType, ite_self]
  cases (env.overrides.filter (dbMatch col)).head? <;> rfl

theorem C15_precedence (env : TypeEnv) (col : Column) : goType env col = specType env col := by
  simp only [goType, specType, columnOverride_eq, goInner_eq]
  cases (env.overrides.filter (colMatch env col)).head? <;> rfl

/-- a column override that names this column decides, wherever db_type overrides stand -/
theorem C15_column_hit (env : TypeEnv) (col : Column) (o : Override)
    (h : (env.overrides.filter (colMatch env col)).head? = some o) : goType env col = o.goTypeName := by
  rw [C15_precedence, specType, h]

theorem C15_dbtype_hit (env : TypeEnv) (col : Column) (o : Override)
    (hc : env.overrides.filter (colMatch env col) = [])
    (h : (env.overrides.filter (dbMatch col)).head? = some o) :
    goType env col = if col.isArray then Gen.arrayPrefix ++ o.goTypeName else o.goTypeName := by
  rw [C15_precedence, specType, hc, h]; rfl

/-- neither the engine's answer nor the column test reads the override list -/
theorem engineType_overrides (env : TypeEnv) (ovs : List Override) (col : Column) :
    engineType { env with overrides := ovs } col = engineType env col := by
  unfold engineType postgresType mysqlType
  rfl

theorem colMatch_overrides (env : TypeEnv) (ovs : List Override) (col : Column) :
    colMatch { env with overrides := ovs } col = colMatch env col := rfl

/-- goType sees the override list only through the entries that apply to the column -/
theorem goType_congr_overrides (env : TypeEnv) (ovs ovs' : List Override) (col : Column)
    (hc : ovs.filter (colMatch env col) = ovs'.filter (colMatch env col))
    (hd : ovs.filter (dbMatch col) = ovs'.filter (dbMatch col)) :
    goType { env with overrides := ovs } col = goType { env with overrides := ovs' } col := by
  simp only [C15_precedence, specType, engineType_overrides, colMatch_overrides, hc, hd]

theorem C15_engine_ignores_overrides (env : TypeEnv) (ovs : List Override) (col : Column)
    (hc : ovs.filter (colMatch env col) = []) (hd : ovs.filter (dbMatch col) = []) :
    goType { env with overrides := ovs } col = goType { env with overrides := [] } col :=
  goType_congr_overrides env ovs [] col hc hd

/-- an entry that applies neither as column override nor as db_type override to this column is invisible to it -/
theorem C15_frame (env : TypeEnv) (o : Override) (rest : List Override) (col : Column)
    (hc : colMatch env col o = false) (hd : dbMatch col o = false) :
    goType { env with overrides := o :: rest } col = goType { env with overrides := rest } col :=
  goType_congr_overrides env (o :: rest) rest col (List.filter_cons_of_neg (by simp [hc])) (List.filter_cons_of_neg (by simp [hd]))

/-- what makes an entry not apply as a column override: another column name, or another table -/
theorem C15_other_column (env : TypeEnv) (o : Override) (col : Column) (h : o.columnName ≠ col.name) :
    colMatch env col o = false := by
  simp [colMatch, h]

theorem C15_other_table (env : TypeEnv) (o : Override) (col : Column)
    (h : sameTableName col.table o.table env.defaultSchema = false) : colMatch env col o = false := by
  simp [colMatch, h]

theorem C15_other_dbtype (o : Override) (col : Column) (h : o.dbType ≠ col.dataType) : dbMatch col o = false := by
  simp [dbMatch, h]

theorem C15_other_nullability (o : Override) (col : Column) (h : o.nullable = (col.notNull || col.isArray)) :
    dbMatch col o = false := by
  simp [dbMatch, h]

/-- one column record, one Go type: every surface that hands goType the same record gets the same type -/
theorem C15_same_everywhere (env : TypeEnv) (c1 c2 : Column) (h : c1 = c2) : goType env c1 = goType env c2 := by rw [h]

/-! ### GoType.Parse -/

/-- what the object form fixes of its result -/
theorem parseObject_some (path pkg name : List Char) (ptr : Bool) (p : Parsed)
    (h : parseObject path pkg name ptr = some p) :
    p.importPath = path ∧ p.basic = (path == [] && pkg == []) ∧ (ptr = true → p.typeName.head? = some '*') := by
  unfold parseObject at h
  by_cases hc : (path == [] && pkg != []) = true
  · rw [if_pos hc] at h
    cases h
  · rw [if_neg hc] at h
    cases h
    exact ⟨rfl, rfl, fun hp => by subst hp; rfl⟩

theorem C15_parse_pointer_object (path pkg name : List Char) (p : Parsed)
    (h : parseObject path pkg name true = some p) : p.typeName.head? = some '*' ∧ p.importPath = path :=
  have ⟨h1, _, h3⟩ := parseObject_some path pkg name true p h
  ⟨h3 rfl, h1⟩

theorem C15_parse_object_import (path pkg name : List Char) (ptr : Bool) (p : Parsed)
    (h : parseObject path pkg name ptr = some p) : p.importPath = path ∧ (p.basic = true ↔ (path = [] ∧ pkg = [])) := by
  have ⟨h1, h2, _⟩ := parseObject_some path pkg name ptr p h
  simp [h1, h2]

theorem C15_parse_basic (s : String) (h : s ∈ basicTypes) (hd : lastIndex '.' s.toList = none) (hs : lastIndex '/' s.toList = none) :
    parseSpec s.toList = some { typeName := s.toList, basic := true } := by
  unfold parseSpec
  simp only [hd, hs]
  have : basicTypes.contains (String.ofList s.toList) = true := by simpa using h
  rw [if_pos this]

/-- in the string form the import path is the text before the last dot, without the pointer star, and the
type name keeps the star -/
theorem C15_parse_import_is_prefix (input : List Char) (d s : Nat) (p : Parsed)
    (hd : lastIndex '.' input = some d) (hs : lastIndex '/' input = some s) (h : parseSpec input = some p) :
    p.importPath = (if input.head? = some '*' then (input.take d).drop 1 else input.take d) ∧
    (input.head? = some '*' → p.typeName.head? = some '*') := by
  unfold parseSpec at h
  simp only [hd, hs] at h
  split at h
  · cases h
    exact ⟨rfl, fun _ => rfl⟩
  · rename_i hne
    cases h
    have hh : input.head? ≠ some '*' := fun hx =>
      have ⟨t, ht⟩ := List.head?_eq_some_iff.mp hx
      hne t ht
    exact ⟨(if_neg hh).symm, fun hx => absurd hx hh⟩

theorem witness_parse :
    parseSpec "*math/big.Int".toList = some { importPath := "math/big".toList, typeName := "*big.Int".toList } ∧
    parseSpec "github.com/google/uuid.UUID".toList = some { importPath := "github.com/google/uuid".toList, typeName := "uuid.UUID".toList } ∧
    parseSpec "time.Duration".toList = none ∧
    parseObject "math/big".toList [] "Float".toList true = some { importPath := "math/big".toList, typeName := "*big.Float".toList } := by
  -- the literals as character lists first: `String.toList` evaluated inside the decision procedure is several times dearer
  simp only [String.reduceToList]
  decide +kernel

theorem translator_complete : Gen.untranslatable = [] := rfl

end Sqlc.C15
