import SqlcModel.Query.Analyze
import SqlcModel.Props.C02
import SqlcModel.Lemmas.Resolve
import SqlcModel.Spec.Keywords
import SqlcModel.Gen.Untranslatable
/-
C07 — Star expansion lists exactly the catalog's columns, unambiguously.

Proved on the model of expandStmt's star loop (`starNames` / `starName`, used by `expandStmt`):

* `C07_order` — a star is replaced by one identifier per column of every relation in scope (those named
  `scope` for `scope.*`), in from-clause order then declaration order;
* `C07_scoped` — under `t.*` every identifier is `t.` + the (quoted) column;
* `C07_unreserved_unique` / `C07_unreserved_shared` — for a column whose name is not a reserved word: written
  bare when no other relation in scope has it, qualified by its relation when one has;
* `C07_quote_reserved` / `C07_quote_plain` — what quoting does;
* `C07_pg_reserved_complete`, `C07_mysql_reserved_core` — every reserved word of the dialect (per the manual's
  list in Spec/Keywords.lean) is in the regenerated keyword table the engine consults.

The full statement ("each written so that it resolves to that one column") is FALSE of the unchanged code:
`C07_reserved_shared_unqualified` proves that a reserved-word column is written unqualified however many
relations in scope have it (the count table is keyed by the bare name and consulted with the quoted one) —
the finding recorded as `reservedShared`; and quoting is decided by the keyword table alone, so a name that
needs quotes for another reason is written bare (`C07_quote_plain`, finding `needsQuoting`). The theorems
above are therefore the `_partial` form: they cover names that are not reserved and need no quoting.
-/
namespace Sqlc.C07
open Sqlc Sqlc.Q

/-- one identifier per (relation, column) in scope, from-clause order then declaration order -/
theorem C07_order (engine : String) (tables : List Table) (scope : String) (rn : Option String) :
    starNames engine tables scope rn =
      (C02.starSources tables scope).map (fun tc => starName engine tables scope rn tc.1 tc.2) :=
  (C02.C02_star_same_source engine tables scope rn).2

/-- an unscoped star ranges over every column of every relation in scope -/
theorem C07_sources_unscoped (tables : List Table) :
    C02.starSources tables "" = tables.flatMap (fun t => t.columns.map (fun c => (t, c))) := by
  rw [C02.starSources_eq, selected_empty]

/-- `t.*` ranges over the columns of the relations named `t` only -/
theorem C07_sources_scoped (tables : List Table) (scope : String) (h : scope ≠ "") (t : Table) (c : Q.Column)
    (hm : (t, c) ∈ C02.starSources tables scope) : t.rel.name = scope ∧ t ∈ tables ∧ c ∈ t.columns := by
  obtain ⟨ht, hs, hc⟩ := C02.mem_starSources.mp hm
  exact ⟨hs.resolve_left h, ht, hc⟩

theorem C07_quote_plain (engine n : String) (h : isReserved engine n = false) : quoteIdent engine n = n := by
  unfold quoteIdent; simp [h]

theorem C07_quote_reserved (engine n : String) (h : isReserved engine n = true) :
    quoteIdent engine n = if engine == "mysql" then "`" ++ n ++ "`" else "\"" ++ n ++ "\"" := by
  unfold quoteIdent; simp [h]

/-- under `scope.*` every identifier is qualified by the scope -/
theorem C07_scoped (engine : String) (tables : List Table) (scope : String) (h : scope ≠ "") (t : Table) (c : Q.Column) :
    starName engine tables scope none t c = quoteIdent engine scope ++ "." ++ quoteIdent engine c.name := by
  unfold starName
  have h1 : (scope != "") = true := by simpa using h
  have h2 : (scope == "") = false := by simpa using h
  simp [h1, h2]

/-- what an unscoped, unaliased star writes for a column: the count is consulted with the QUOTED name -/
theorem starName_unscoped (engine : String) (tables : List Table) (t : Table) (c : Q.Column) :
    starName engine tables "" none t c =
      if countName tables (quoteIdent engine c.name) > 1 then quoteIdent engine t.rel.name ++ "." ++ quoteIdent engine c.name
      else quoteIdent engine c.name := by
  simp [starName]

/-- a non-reserved column that only one relation in scope has is written bare -/
theorem C07_unreserved_unique (engine : String) (tables : List Table) (t : Table) (c : Q.Column)
    (hr : isReserved engine c.name = false) (hu : countName tables c.name ≤ 1) :
    starName engine tables "" none t c = c.name := by
  rw [starName_unscoped, C07_quote_plain engine c.name hr, if_neg (by omega)]

/-- a non-reserved column that several relations in scope have is qualified by its own relation -/
theorem C07_unreserved_shared (engine : String) (tables : List Table) (t : Table) (c : Q.Column)
    (hr : isReserved engine c.name = false) (hs : countName tables c.name > 1) :
    starName engine tables "" none t c = quoteIdent engine t.rel.name ++ "." ++ c.name := by
  rw [starName_unscoped, C07_quote_plain engine c.name hr, if_pos hs]

/-- the defect, exactly: a reserved-word column is written unqualified however many relations in scope
have it (unless some column is literally named with the quote characters) -/
theorem C07_reserved_shared_unqualified (engine : String) (tables : List Table) (t : Table) (c : Q.Column)
    (_hr : isReserved engine c.name = true)
    (hq : countName tables (quoteIdent engine c.name) = 0) :
    starName engine tables "" none t c = quoteIdent engine c.name := by
  rw [starName_unscoped, hq, if_neg (by omega)]

/-! ### the keyword tables -/

/-- the engine's table is the manual's two lists, each word once -/
theorem pg_reserved_perm : Gen.pgReserved.Perm (Spec.pgReservedDoc ++ Spec.pgReservedFuncOrTypeDoc) := by
  decide +kernel

theorem C07_pg_reserved_complete : ∀ k ∈ Spec.pgReservedDoc ++ Spec.pgReservedFuncOrTypeDoc, k ∈ Gen.pgReserved :=
  fun _ => pg_reserved_perm.mem_iff.mpr

theorem C07_pg_reserved_exact : ∀ k ∈ Gen.pgReserved, k ∈ Spec.pgReservedDoc ++ Spec.pgReservedFuncOrTypeDoc :=
  fun _ => pg_reserved_perm.mem_iff.mp

/-- Both lists are alphabetical, so the documented core is a sublist of the table. That test is linear; asking
for each word whether it is a member makes the kernel compare some 20,000 pairs of strings. -/
theorem mysql_reserved_core_sublist : Spec.mysqlReservedCoreDoc.Sublist Gen.mysqlReserved := by
  decide +kernel

theorem C07_mysql_reserved_core : ∀ k ∈ Spec.mysqlReservedCoreDoc, k ∈ Gen.mysqlReserved :=
  fun _ h => mysql_reserved_core_sublist.subset h

/-- IsReservedKeyword lower-cases before the lookup in both engines (regenerated fact) -/
theorem C07_lookup_lowercases : Gen.pgReservedLowercases = true ∧ Gen.mysqlReservedLowercases = true := ⟨rfl, rfl⟩

/-! ### non-vacuity -/

theorem witness_sources : (C02.starSources C02.wTables "").length = 3 ∧ (C02.starSources C02.wTables "b").length = 1 := by decide +kernel
theorem witness_shared : countName C02.wTables "id" = 2 ∧ countName C02.wTables "name" = 1 := by decide +kernel

theorem translator_complete : Gen.untranslatable = [] := rfl

end Sqlc.C07
