import SqlcModel.Catalog.Model
import SqlcModel.Spec.PgCatalog
import SqlcModel.Lemmas.ListKey
import SqlcModel.Lemmas.CatWF
import SqlcModel.Lemmas.CatWFStep
import SqlcModel.Gen.Untranslatable
/-
C08 — Catalog is the fold of the migration history (DDL semantics).

Refinement of the handler-by-handler model of internal/sql/catalog (first-match / last-match slice
operations, `Cat.update`) to the PostgreSQL reference semantics (`Spec.Pg.step`, set-like operations),
under the catalog well-formedness invariant (names unique per namespace), lifted to every finite
history by induction.
-/
namespace Sqlc.C08
open Sqlc.Cat Sqlc.Spec

theorem wf_init : WF initPg := by
  refine ⟨by decide, fun s hs => ?_⟩
  have : s.tables = [] ∧ s.types = [] := by
    simp only [initPg, List.mem_cons, List.not_mem_nil, or_false] at hs
    rcases hs with rfl | rfl <;> exact ⟨rfl, rfl⟩
  simp [WFSchema, this]

/-! ### the model's lookups in the vocabulary of the reference semantics

The lookups themselves are the same functions (`findSchema` is `Pg.schemaOf`, `Schema.findTable` is `Pg.relOf`,
`Schema.findType` is `Pg.typeOf`, by `rfl`); the reference semantics' existence tests say whether they succeed. -/

theorem findSchema_eq (c : Catalog) (n : String) : findSchema c n = Pg.schemaOf c n := rfl
theorem findTable_eq (s : Schema) (n : String) : s.findTable n = Pg.relOf s n := rfl
theorem findType_eq (s : Schema) (n : String) : s.findType n = Pg.typeOf s n := rfl
theorem hasSchema_eq (c : Catalog) (n : String) : Pg.hasSchema c n = (Pg.schemaOf c n).isSome := List.isSome_find?.symm
theorem hasRel_eq (s : Schema) (n : String) : Pg.hasRel s n = (Pg.relOf s n).isSome := List.isSome_find?.symm
theorem hasType_eq (s : Schema) (n : String) : Pg.hasType s n = (Pg.typeOf s n).isSome := List.isSome_find?.symm
theorem hasCol_eq (t : Table) (n : String) : Pg.hasCol t n = (colIdx t n).isSome := List.findIdx?_isSome.symm
theorem hasSchema_eq_idx (c : Catalog) (n : String) :
    Pg.hasSchema c n = (c.schemas.findIdx? (·.name == n)).isSome := List.findIdx?_isSome.symm
theorem hasRel_eq_idx (s : Schema) (n : String) : Pg.hasRel s n = (s.tableIdx n).isSome := List.findIdx?_isSome.symm
theorem hasType_eq_idx (s : Schema) (n : String) : Pg.hasType s n = (s.typeIdx n).isSome := List.findIdx?_isSome.symm

theorem findType_name (s : Schema) (n : String) (t : Ty) (h : s.findType n = some t) : t.name = n :=
  beq_iff_eq.mp (List.find?_some (p := fun t : Ty => t.name == n) h)

theorem distinct_eq_not_dup (l : List String) : Pg.distinct l = !hasDupNames l := by
  induction l with
  | nil => rfl
  | cons a as ih => simp [Pg.distinct, hasDupNames, ih, Bool.not_or]

/-! ### the model's updates are the set-like ones, on a well-formed catalog -/

theorem modifySchema_eq {c : Catalog} (n : String) (f : Schema → Schema) (h : WF c) :
    modifySchema c n f = Pg.mapSchema c n f :=
  congrArg (fun l => { c with schemas := l }) (modifyFirst_eq_map Schema.name n f c.schemas h.1)

/-- an update of "the schema `n`" through map-if depends on the function only at the schema the lookup finds -/
theorem mapSchema_congr {c : Catalog} {n : String} {s : Schema} {f g : Schema → Schema} (h : WF c)
    (hs : Pg.schemaOf c n = some s) (hfg : f s = g s) : Pg.mapSchema c n f = Pg.mapSchema c n g :=
  congrArg (fun l => { c with schemas := l }) (map_if_congr_found Schema.name n f g h.1 hs hfg)

theorem mapRel_congr {s : Schema} {n : String} {t : Table} {f g : Table → Table} (h : WFSchema s)
    (ht : Pg.relOf s n = some t) (hfg : f t = g t) : Pg.mapRel s n f = Pg.mapRel s n g :=
  congrArg (fun l => { s with tables := l }) (map_if_congr_found Table.name n f g h.1 ht hfg)

theorem mapType_congr {s : Schema} {n : String} {t : Ty} {f g : Ty → Ty} (h : WFSchema s)
    (ht : Pg.typeOf s n = some t) (hfg : f t = g t) : Pg.mapType s n f = Pg.mapType s n g :=
  congrArg (fun l => { s with types := l }) (map_if_congr_found Ty.name n f g h.2.1 ht hfg)

theorem Schema.modifyTable_eq {s : Schema} (n : String) (f : Table → Table) (h : WFSchema s) :
    s.modifyTable n f = Pg.mapRel s n f :=
  congrArg (fun l => { s with tables := l }) (modifyFirst_eq_map Table.name n f s.tables h.1)

theorem Schema.modifyType_eq {s : Schema} (n : String) (f : Ty → Ty) (h : WFSchema s) :
    s.modifyType n f = Pg.mapType s n f :=
  congrArg (fun l => { s with types := l }) (modifyFirst_eq_map Ty.name n f s.types h.2.1)

/-- the model updates the table the lookups found; the reference semantics every table of that name in every
schema of that name -/
theorem modifyTable_eq {c : Catalog} {q : QName} {s : Schema} {t : Table} {f g : Table → Table} (h : WF c)
    (hs : Pg.schemaOf c (ns c q) = some s) (ht : Pg.relOf s q.name = some t) (hfg : f t = g t) :
    modifyTable c q f = Pg.mapSchema c (ns c q) (fun s => Pg.mapRel s q.name g) := by
  rw [modifyTable, modifySchema_eq _ _ h]
  exact mapSchema_congr h hs ((Schema.modifyTable_eq _ f (h.schema hs)).trans (mapRel_congr (h.schema hs) ht hfg))

theorem modifyType_eq {c : Catalog} {n tn : String} {s : Schema} {t : Ty} {f g : Ty → Ty} (h : WF c)
    (hs : Pg.schemaOf c n = some s) (ht : Pg.typeOf s tn = some t) (hfg : f t = g t) :
    Pg.mapSchema c n (fun s => s.modifyType tn f) = Pg.mapSchema c n (fun s => Pg.mapType s tn g) :=
  mapSchema_congr h hs ((Schema.modifyType_eq _ f (h.schema hs)).trans (mapType_congr (h.schema hs) ht hfg))

theorem modifyCol_eq {t : Table} {col : String} {i : Nat} (f : Column → Column) (h : WFTable t)
    (hi : colIdx t col = some i) : modifyCol t i f = Pg.mapCol t col f :=
  congrArg (fun l => { t with cols := l }) ((modify_findIdx? f hi).trans (modifyFirst_eq_map Column.name col f t.cols h))

theorem modifyTable_col_eq {c : Catalog} {q : QName} {s : Schema} {t : Table} {col : String} {i : Nat} (h : WF c)
    (hs : Pg.schemaOf c (ns c q) = some s) (ht : Pg.relOf s q.name = some t) (hi : colIdx t col = some i)
    (f : Column → Column) :
    modifyTable c q (fun t => modifyCol t i f) =
      Pg.mapSchema c (ns c q) (fun s => Pg.mapRel s q.name (fun t => Pg.mapCol t col f)) :=
  modifyTable_eq h hs ht (modifyCol_eq f ((h.schema hs).table ht) hi)

/-- splicing out the element found = filtering by its key -/
theorem eraseIdx_eq_filter {α : Type} (key : α → String) {n : String} {l : List α} {i : Nat} (h : (l.map key).Nodup)
    (hi : l.findIdx? (fun a => key a == n) = some i) : l.eraseIdx i = l.filter (fun a => key a != n) :=
  (eraseIdx_findIdx? hi).trans (eraseP_eq_filter key n l h)

theorem erase_table_eq {c : Catalog} {sn tn : String} {s : Schema} {i : Nat} (h : WF c)
    (hs : Pg.schemaOf c sn = some s) (hi : s.tableIdx tn = some i) :
    Pg.mapSchema c sn (fun s' => { s' with tables := s'.tables.eraseIdx i }) =
    Pg.mapSchema c sn (fun s' => { s' with tables := s'.tables.filter (·.name != tn) }) :=
  mapSchema_congr h hs (by rw [eraseIdx_eq_filter Table.name (h.schema hs).1 hi])

theorem erase_type_eq {c : Catalog} {sn tn : String} {s : Schema} {i : Nat} (h : WF c)
    (hs : Pg.schemaOf c sn = some s) (hi : s.typeIdx tn = some i) :
    Pg.mapSchema c sn (fun s' => { s' with types := s'.types.eraseIdx i }) =
    Pg.mapSchema c sn (fun s' => { s' with types := s'.types.filter (·.name != tn) }) :=
  mapSchema_congr h hs (by rw [eraseIdx_eq_filter Ty.name (h.schema hs).2.1 hi])

/-! a list of enum labels is its own list of keys -/

theorem lastIdx_label {l : List String} (old : String) (h : l.Nodup) :
    lastIdx? (fun v => v == old) l = l.findIdx? (fun v => v == old) :=
  lastIdx_eq_findIdx id old l (by rwa [List.map_id])

theorem set_label {l : List String} {old : String} {i : Nat} (new : String) (h : l.Nodup)
    (hi : l.findIdx? (fun v => v == old) = some i) : l.set i new = l.map (fun v => if v == old then new else v) := by
  have := (modify_findIdx? (fun _ => new) hi).trans (modifyFirst_eq_map id old (fun _ => new) l (by rwa [List.map_id]))
  rwa [List.modify_eq_set] at this

theorem contains_label (l : List String) (v : String) : l.contains v = (l.findIdx? (fun x => x == v)).isSome := by
  rw [List.findIdx?_isSome, List.any_beq']

/-! ### loops

The model's multi-object statements and its command list are recursive functions; the reference semantics folds
a step function. Each is handled by showing that one unfolding of the loop is one step. -/

theorem loop_eq_foldlM {σ α ε : Type} {loop : σ → List α → Except ε σ} {step : σ → α → Except ε σ} (P : σ → Prop)
    (hnil : ∀ c, loop c [] = .ok c)
    (hcons : ∀ c a as, P c → loop c (a :: as) = (step c a).bind (loop · as))
    (hP : ∀ c a c', P c → step c a = .ok c' → P c') :
    ∀ (as : List α) (c : σ), P c → loop c as = as.foldlM step c
  | [], c, _ => hnil c
  | a :: as, c, h => by
    rw [hcons c a as h, List.foldlM_cons]
    cases hr : step c a with
    | error e => rfl
    | ok c' => exact loop_eq_foldlM P hnil hcons hP as c' (hP c a c' h hr)

theorem refines_alterCmd (t : Table) (cmd : AlterCmd) (h : WFTable t) :
    Cat.alterCmd t cmd = Pg.alterCmd t cmd := by
  cases cmd with
  | add d g => rfl
  | drop col g =>
    simp only [Cat.alterCmd, Pg.alterCmd, hasCol_eq]
    cases hi : colIdx t col with
    | none => rfl
    | some i => simp only [Option.isSome_some, if_true, eraseIdx_eq_filter Column.name h hi]
  | setType col _ _ _ | setNotNull col | dropNotNull col =>
    simp only [Cat.alterCmd, Pg.alterCmd, hasCol_eq]
    cases hi : colIdx t col with
    | none => rfl
    | some i => simp only [Option.isSome_some, if_true, modifyCol_eq _ h hi]

theorem refines_alterCmds (cmds : List AlterCmd) (t : Table) (h : WFTable t) :
    alterCmds t cmds = cmds.foldlM Pg.alterCmd t :=
  loop_eq_foldlM WFTable (fun _ => rfl)
    (fun t cmd rest ht => by rw [alterCmds, refines_alterCmd t cmd ht]; rfl)
    (fun _ _ _ ht hr => (alterCmd_ok ht hr).1) cmds t h

theorem refines_dropSchema (g : Bool) (names : List String) (c : Catalog) (h : WF c) :
    dropSchema c names g = names.foldlM (Pg.dropSchemaStep g) c := by
  refine loop_eq_foldlM (loop := fun c names => dropSchema c names g) WF (fun _ => rfl) ?_
    (fun _ _ _ => wf_dropSchemaStep) names c h
  intro c n rest h
  simp only [dropSchema, Pg.dropSchemaStep, lastIdx_eq_findIdx Schema.name n c.schemas h.1, hasSchema_eq_idx]
  cases hi : c.schemas.findIdx? (fun s => s.name == n) with
  | none => cases g <;> rfl
  | some i => simp only [Option.isSome_some, if_true, eraseIdx_eq_filter Schema.name h.1 hi]; rfl

theorem refines_dropTable (g : Bool) (rels : List QName) (c : Catalog) (h : WF c) :
    dropTable c rels g = rels.foldlM (Pg.dropTableStep g) c := by
  refine loop_eq_foldlM (loop := fun c rels => dropTable c rels g) WF (fun _ => rfl) ?_
    (fun _ _ _ => wf_dropTableStep) rels c h
  intro c q rest h
  simp only [dropTable, Pg.dropTableStep, findSchema_eq]
  cases hs : Pg.schemaOf c (ns c q) with
  | none => cases g <;> rfl
  | some s =>
    simp only [hasRel_eq_idx]
    cases hi : s.tableIdx q.name with
    | none => cases g <;> rfl
    | some i => simp only [Option.isSome_some, if_true, modifySchema_eq _ _ h, erase_table_eq h hs hi]; rfl

theorem refines_dropType (g : Bool) (tys : List QName) (c : Catalog) (h : WF c) :
    dropType c tys g = tys.foldlM (Pg.dropTypeStep g) c := by
  refine loop_eq_foldlM (loop := fun c tys => dropType c tys g) WF (fun _ => rfl) ?_
    (fun _ _ _ => wf_dropTypeStep) tys c h
  intro c q rest h
  simp only [dropType, Pg.dropTypeStep, findSchema_eq]
  cases hs : Pg.schemaOf c (ns c q) with
  | none => cases g <;> rfl
  | some s =>
    simp only [hasType_eq_idx]
    cases hi : s.typeIdx q.name with
    | none => cases g <;> rfl
    | some i => simp only [Option.isSome_some, if_true, modifySchema_eq _ _ h, erase_type_eq h hs hi]; rfl

/-! ### every statement kind refines -/

theorem refines (c : Catalog) (op : DDL) (h : WF c) : update c op = Pg.step c op := by
  -- both sides in one vocabulary: the handlers unfolded, their lookups and tests as `Pg.schemaOf` / `relOf` / `typeOf`
  -- (and whether those succeed), the schema update as `Pg.mapSchema`
  cases op <;> simp only [update, Pg.step, createSchema, commentSchema, createTable, createEnum, createType,
    commentTable, commentType, renameTable, commentColumn, renameColumn, alterTable, setSchema, addValue, renameValue,
    getSchema, getTable, findSchema_eq, findTable_eq, findType_eq, hasSchema_eq, hasRel_eq, hasType_eq, hasCol_eq,
    distinct_eq_not_dup, modifySchema_eq _ _ h, bind, Except.bind]
  case dropSchema names g => exact refines_dropSchema g names c h
  case dropTable rels g => exact refines_dropTable g rels c h
  case dropType tys g => exact refines_dropType g tys c h
  case createSchema n g => cases Pg.schemaOf c n <;> rfl
  case commentSchema n t => cases Pg.schemaOf c n <;> rfl
  case createTable q g cols =>
    cases Pg.schemaOf c (ns c q) with
    | none => rfl
    | some s =>
      dsimp only
      cases Pg.relOf s q.name <;> cases Pg.typeOf s q.name <;> cases hasDupNames (cols.map (·.name)) <;> rfl
  case createEnum q vs =>
    cases Pg.schemaOf c (ns c q) with
    | none => rfl
    | some s =>
      dsimp only
      cases Pg.relOf s q.name <;> cases Pg.typeOf s q.name <;> cases hasDupNames vs <;> rfl
  case createComposite q => cases Pg.schemaOf c (ns c q) <;> rfl
  case commentTable q text =>
    cases hs : Pg.schemaOf c (ns c q) with
    | none => rfl
    | some s =>
      dsimp only
      cases ht : Pg.relOf s q.name with
      | none => rfl
      | some t => simp only [modifyTable_eq h hs ht rfl]; rfl
  case commentType q text =>
    cases hs : Pg.schemaOf c (ns c q) with
    | none => rfl
    | some s =>
      dsimp only
      cases ht : Pg.typeOf s q.name with
      | none => rfl
      | some t => simp only [modifyType_eq h hs ht rfl]; rfl
  case renameTable q n =>
    cases hs : Pg.schemaOf c (ns c q) with
    | none => rfl
    | some s =>
      dsimp only
      cases ht : Pg.relOf s q.name with
      | none => rfl
      | some t =>
        simp only [modifyTable_eq h hs ht rfl]
        cases Pg.relOf s n <;> cases Pg.typeOf s n <;> rfl
  case commentColumn q col text =>
    cases hs : Pg.schemaOf c (ns c q) with
    | none => rfl
    | some s =>
      dsimp only
      cases ht : Pg.relOf s q.name with
      | none => rfl
      | some t =>
        dsimp only
        cases hi : colIdx t col with
        | none => rfl
        | some i => simp only [modifyTable_col_eq h hs ht hi]; rfl
  case renameColumn q col n =>
    cases hs : Pg.schemaOf c (ns c q) with
    | none => rfl
    | some s =>
      dsimp only
      cases ht : Pg.relOf s q.name with
      | none => rfl
      | some t =>
        simp only [lastIdx_eq_findIdx Column.name col t.cols ((h.schema hs).table ht), ← colIdx.eq_1, ← Pg.hasCol.eq_1,
          hasCol_eq]
        cases colIdx t n with
        | some _ => rfl
        | none =>
          cases hi : colIdx t col with
          | none => rfl
          | some i => simp only [modifyTable_col_eq h hs ht hi]; rfl
  case alterTable q cmds =>
    split
    · rfl
    · cases hs : Pg.schemaOf c (ns c q) with
      | none => rfl
      | some s =>
        dsimp only
        cases ht : Pg.relOf s q.name with
        | none => rfl
        | some t =>
          simp only [refines_alterCmds cmds t ((h.schema hs).table ht)]
          cases cmds.foldlM Pg.alterCmd t with
          | error e => rfl
          | ok t' => simp only [Except.map, modifyTable_eq h hs ht rfl]
  case setSchema q n =>
    cases hs : Pg.schemaOf c (ns c q) with
    | none => rfl
    | some s =>
      dsimp only
      have hidx : (s.tableIdx q.name).isSome = (Pg.relOf s q.name).isSome := by rw [← hasRel_eq, hasRel_eq_idx]
      cases ht : Pg.relOf s q.name with
      | none => cases s.tableIdx q.name <;> rfl
      | some t =>
        cases hi : s.tableIdx q.name with
        | none => rw [ht, hi] at hidx; cases hidx
        | some i =>
          dsimp only
          cases Pg.schemaOf c n with
          | none => rfl
          | some s2 =>
            have hc1 : WF (Pg.mapSchema c (ns c q) fun s => { s with tables := s.tables.filter (·.name != q.name) }) :=
              wf_mapSchema h fun s' hs' => ⟨rfl, wfSchema_filter_tables _ (h.schema hs')⟩
            simp only [erase_table_eq h hs hi, modifySchema_eq _ _ hc1]
  case addValue q val g pos =>
    cases hs : Pg.schemaOf c (ns c q) with
    | none => rfl
    | some s =>
      dsimp only
      cases ht : Pg.typeOf s q.name with
      | none => rfl
      | some t =>
        cases t with
        | composite _ _ => rfl
        | enum en vals cm =>
          dsimp only
          split
          · rfl
          · cases pos with
            | none =>
              -- appending = inserting at the end, for the label list of the enum the lookup found
              exact congrArg Except.ok (modifyType_eq h hs ht (by simp))
            | some p =>
              dsimp only
              cases vals.findIdx? (· == p.2) with
              | none => rfl
              | some i => simp only [Option.map_some, modifyType_eq h hs ht rfl]; rfl
  case renameValue q old new =>
    cases hs : Pg.schemaOf c (ns c q) with
    | none => rfl
    | some s =>
      dsimp only
      cases ht : Pg.typeOf s q.name with
      | none => rfl
      | some t =>
        cases t with
        | composite _ _ => rfl
        | enum en vals cm =>
          have hv : vals.Nodup := (h.schema hs).type ht
          simp only [lastIdx_label old hv, contains_label]
          cases hi : vals.findIdx? (fun v => v == old) with
          | none => rfl
          | some i =>
            dsimp only [Option.isSome_some, Bool.not_true]
            split
            · rfl
            · exact congrArg Except.ok (modifyType_eq h hs ht (by simp only [set_label new hv hi]))

/-! ### the property: every finite history -/

theorem run_eq_foldlM (ops : List DDL) (c : Catalog) : Pg.run c ops = ops.foldlM Pg.step c :=
  loop_eq_foldlM (fun _ => True) (fun _ => rfl) (fun _ _ _ _ => rfl) (fun _ _ _ _ _ => trivial) ops c trivial

/-- C08 (full strength on the modelled statement subset): for EVERY finite DDL history, starting from
the initial PostgreSQL catalog, the handler model yields exactly the catalog — or rejects at exactly
the statement and with the error class — that the PostgreSQL reference semantics yields. -/
theorem C08_history_refines (ops : List DDL) (c : Catalog) (h : WF c) : Cat.run c ops = Pg.run c ops :=
  (loop_eq_foldlM WF (fun _ => rfl) (fun c op _ h => by rw [Cat.run, refines c op h]; rfl)
    (fun c op c' h => wf_step c c' op h) ops c h).trans (run_eq_foldlM ops c).symm

theorem C08 (ops : List DDL) : Cat.run initPg ops = Pg.run initPg ops :=
  C08_history_refines ops initPg wf_init

/-- and every catalog reached is well formed (names unique per namespace) -/
theorem C08_reachable_wf : ∀ (ops : List DDL) (c c' : Catalog), WF c → Pg.run c ops = .ok c' → WF c' :=
  fun ops c _ h hr => foldlM_invariant WF (fun c op c' h => wf_step c c' op h) ops h (run_eq_foldlM ops c ▸ hr)

/-- non-vacuity: a concrete non-trivial history runs to a catalog in both semantics -/
def exHistory : List DDL := [
  .createSchema "s1" true, .createSchema "s1" true,
  .createEnum ⟨"", "e1"⟩ ["x", "y"],
  .createTable ⟨"", "t1"⟩ false [⟨"a", "pg_catalog", "int4", false, true⟩, ⟨"b", "", "e1", false, false⟩],
  .alterTable ⟨"", "t1"⟩ [.drop "a" false, .add ⟨"c", "", "text", true, false⟩ true, .setNotNull "b"],
  .addValue ⟨"", "e1"⟩ "z" false (some (false, "y")),
  .renameTable ⟨"", "t1"⟩ "t2", .setSchema ⟨"", "t2"⟩ "s1",
  .dropSchema ["s1"] false, .createSchema "s1" false]

example : (match Cat.run initPg exHistory with | .ok c => c.schemas.length | .error _ => 0) = 3 := by decide

theorem translator_complete : Gen.untranslatable = [] := rfl

end Sqlc.C08
