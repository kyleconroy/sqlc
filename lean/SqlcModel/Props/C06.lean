import SqlcModel.Query.Analyze
import SqlcModel.Lemmas.Resolve
import SqlcModel.Gen.Untranslatable
/-
C06 — Parameter types and names track the column they are used with.

Proved on the model of resolveCatalogRefs (internal/compiler/resolve.go), arm by arm:

* `C06_compare_tracks` — a placeholder compared with column `key` that is accepted becomes exactly ONE
  parameter, and it copies the data type, nullability and array-ness of a column named `key` of a table
  of the search list, is attributed to that table, and is named `key` unless the user named it;
  `C06_compare_unique` — and no other table of the search list has such a column;
* `C06_search_alias` / `C06_search_unqualified` — the search list is the aliased table alone when the
  qualifier is an alias, every table of the statement when there is no qualifier;
* `C06_target_tracks` — the same for INSERT column lists and UPDATE SET targets;
* `C06_limit`, `C06_offset` — LIMIT / OFFSET placeholders are non-null integers;
* `C06_cast` — an explicitly cast placeholder takes the cast's type;
* `C06_name_user`, `C06_name_default` — the user's name wins, the column's is the default.

The full statement is FALSE of the unchanged code for a placeholder on the LEFT of a comparison
(`$1 = col`: the arm searches `Lexpr` for the column): the finding `placeholderLeft`, proved as
`C06_placeholder_left`; and the search list of an unqualified column is the whole statement's, not the
query level's (finding `scopeLeak`, decided by the correspondence stream against PgSem).
-/
namespace Sqlc.C06
open Sqlc Sqlc.Q

theorem C06_name_user (names : List (Nat × String)) (n : Nat) (s dflt : String)
    (h : names.find? (·.1 == n) = some (n, s)) : parameterName names n dflt = s := by
  unfold parameterName; rw [h]

theorem C06_name_default (names : List (Nat × String)) (n : Nat) (dflt : String)
    (h : names.find? (·.1 == n) = none) : parameterName names n dflt = dflt := by
  unfold parameterName; rw [h]

theorem mem_compareMatches (names : List (Nat × String)) (num : Nat) (key : String) (tm : List TypeMapEntry)
    (search : List TableName) (p : Parameter) (h : p ∈ compareMatches names num key tm search) :
    ∃ t ∈ search, ∃ cc, typeMapLookup tm t.schema t.name key = some cc ∧ p = compareParam names num key t cc := by
  obtain ⟨t, ht, hp⟩ := List.mem_filterMap.mp h
  obtain ⟨cc, hl, rfl⟩ := Option.map_eq_some_iff.mp hp
  exact ⟨t, ht, cc, hl, rfl⟩

theorem compare_ok (names : List (Nat × String)) (num : Nat) (key : String) (tm : List TypeMapEntry)
    (search : List TableName) (ps : List Parameter) (h : resolveCompare names num key tm search = .ok ps) :
    ps = compareMatches names num key tm search ∧ ps.length = 1 :=
  uniqueHit_eq_ok_iff.mp (resolveCompare_eq .. ▸ h)

/-- an accepted comparison yields one parameter that copies a column named `key` of a searched table -/
theorem C06_compare_tracks (names : List (Nat × String)) (num : Nat) (key : String) (tm : List TypeMapEntry)
    (search : List TableName) (ps : List Parameter) (h : resolveCompare names num key tm search = .ok ps) :
    ∃ t ∈ search, ∃ cc, typeMapLookup tm t.schema t.name key = some cc ∧
      ps = [{ number := num, column := some { name := parameterName names num key, dataType := colDT cc,
                                              notNull := cc.notNull, isArray := cc.isArray, table := some t } }] := by
  obtain ⟨hps, hl⟩ := compare_ok names num key tm search ps h
  obtain ⟨p, rfl⟩ := List.length_eq_one_iff.mp hl
  obtain ⟨t, ht, cc, hlk, rfl⟩ := mem_compareMatches names num key tm search p (hps ▸ List.mem_singleton_self p)
  exact ⟨t, ht, cc, hlk, rfl⟩

/-- … and exactly one position of the search list has a column `key` -/
theorem C06_compare_unique (names : List (Nat × String)) (num : Nat) (key : String) (tm : List TypeMapEntry)
    (search : List TableName) (ps : List Parameter) (h : resolveCompare names num key tm search = .ok ps) :
    (search.filter (fun t => (typeMapLookup tm t.schema t.name key).isSome)).length = 1 := by
  obtain ⟨rfl, hl⟩ := compare_ok names num key tm search ps h
  rw [← compareMatches_length, hl]

theorem C06_search_unqualified (tables : List TableName) (aliasMap : List (String × TableName)) :
    searchTables tables aliasMap "" = tables := by
  unfold searchTables; simp

theorem C06_search_alias (tables : List TableName) (aliasMap : List (String × TableName)) (alias : String) (t : TableName)
    (ha : alias ≠ "") (h : (aliasMap.filter (·.1 == alias)).getLast? = some (alias, t)) :
    searchTables tables aliasMap alias = [t] := by
  unfold searchTables
  have : (alias != "") = true := by simpa using ha
  simp [this, h]

/-- INSERT column list / UPDATE SET target -/
theorem C06_target_tracks (names : List (Nat × String)) (num : Nat) (key : String) (tm : List TypeMapEntry)
    (t : TableName) (ps : List Parameter) (h : resolveTarget names num key tm t = .ok ps) :
    ∃ cc, typeMapLookup tm t.schema t.name key = some cc ∧
      ps = [{ number := num, column := some { name := parameterName names num key, dataType := colDT cc,
                                              notNull := cc.notNull, isArray := cc.isArray,
                                              table := some { schema := t.schema, name := t.name } } }] := by
  unfold resolveTarget at h
  split at h
  next cc hl => cases h; exact ⟨cc, hl, rfl⟩
  next => cases h

section arms
variable (c : Cat) (names : List (Nat × String)) (tables : List TableName)
  (aliasMap : List (String × TableName)) (tm : List TypeMapEntry) (dt : Option TableName)

theorem C06_limit (rv : Option Node) (num : Nat) (loc : Int) :
    resolveOne c names tables aliasMap tm dt { parent := .limitCount, rv := rv, number := num, location := loc } =
      .ok [{ number := num, column := some { name := parameterName names num "limit", dataType := "integer", notNull := true } }] := rfl

theorem C06_offset (rv : Option Node) (num : Nat) (loc : Int) :
    resolveOne c names tables aliasMap tm dt { parent := .limitOffset, rv := rv, number := num, location := loc } =
      .ok [{ number := num, column := some { name := parameterName names num "offset", dataType := "integer", notNull := true } }] := rfl

/-- an explicitly cast placeholder takes the cast's type (toColumn of the type name), non-null -/
theorem C06_cast (fs : List (String × Bool × Node)) (rv : Option Node) (num : Nat) (loc : Int) (col : Column)
    (hn : ((Node.nd "TypeCast" fs).get "TypeName").isNull = false)
    (hc : toColumn ((Node.nd "TypeCast" fs).get "TypeName") = .ok col) :
    resolveOne c names tables aliasMap tm dt { parent := .node (.nd "TypeCast" fs), rv := rv, number := num, location := loc } =
      .ok [{ number := num, column := some { col with name := parameterName names num col.name } }] := by
  unfold resolveOne
  simp [Node.kind, hn, hc]

/-- toColumn always answers non-null -/
theorem toColumn_notNull (tn : Node) (col : Column) (h : toColumn tn = .ok col) : col.notNull = true := by
  -- only the last branch answers `.ok`, and it builds the column with `notNull := true`
  simp only [toColumn, apply_ite (· = Except.ok col), reduceCtorEq, if_false_left, Except.ok.injEq] at h
  obtain ⟨_, _, _, rfl⟩ := h
  rfl

/-- the defect `placeholderLeft`, exactly: when the left operand of the enclosing comparison holds no
column reference, the parameter is typed `any` (or `string` for `||`) and gets no column name —
whatever column stands on the right -/
theorem C06_placeholder_left (fs : List (String × Bool × Node)) (rv : Option Node) (num : Nat) (loc : Int)
    (hl : ((Node.nd "A_Expr" fs).get "Lexpr").search (·.isKind "ColumnRef") = []) :
    ∃ dtp, (dtp = "any" ∨ dtp = "string") ∧
    resolveOne c names tables aliasMap tm dt { parent := .node (.nd "A_Expr" fs), rv := rv, number := num, location := loc } =
      .ok [{ number := num, column := some { name := parameterName names num "", dataType := dtp } }] := by
  unfold resolveOne
  simp only [Node.kind, hl]
  by_cases h : (((Node.nd "A_Expr" fs).get "Name").joinStrings "." == "||") = true
  · exact ⟨"string", Or.inr rfl, by simp [h]⟩
  · exact ⟨"any", Or.inl rfl, by simp [h]⟩

end arms

/-! ### non-vacuity: a two-table statement where `name` is compared -/

def wTm : List TypeMapEntry :=
  [{ schema := "", name := "authors", cols := [{ name := "id", tschema := "pg_catalog", tname := "int8", notNull := true, isArray := false },
                                               { name := "bio", tschema := "", tname := "text", notNull := false, isArray := false }] },
   { schema := "", name := "books", cols := [{ name := "id", tschema := "pg_catalog", tname := "int8", notNull := true, isArray := false }] }]
def wTables : List TableName := [{ name := "authors" }, { name := "books" }]

theorem witness_accept : (match resolveCompare [] 1 "bio" wTm wTables with | .ok ps => ps.length | .error _ => 99) = 1 := by decide +kernel
theorem witness_ambiguous : (match resolveCompare [] 1 "id" wTm wTables with | .ok _ => 0 | .error _ => 1) = 1 := by decide +kernel

theorem translator_complete : Gen.untranslatable = [] := rfl

end Sqlc.C06
