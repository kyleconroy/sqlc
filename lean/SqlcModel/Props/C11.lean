import SqlcModel.Text.Meta
import SqlcModel.Spec.Contract
import SqlcModel.Driver.Compile
import SqlcModel.Gen.TemplateFacts
import SqlcModel.Gen.Untranslatable
import SqlcModel.Lemmas.Basics
/-
C11 — Query annotation determines the generated method's contract.
-/
namespace Sqlc.C11
open Sqlc

/-- O1: for all five commands the per-command blocks of the Go template (regenerated facts) promise
exactly the documented contract: result tuple, driver entry point with and without prepared queries,
the checked error paths of `:many`, the scan. Complete enumeration of the 5 × 8 table. -/
theorem contract_table :
    Gen.templateContract.length = Spec.contractTable.length ∧
    (Gen.templateContract.zip Spec.contractTable).all (fun p =>
      let g := p.1
      let s := p.2
      g.1 == s.1 && g.2.1 == s.2.1 && g.2.2.1 == s.2.1 && g.2.2.2.1 == s.2.2.1 && g.2.2.2.2.1 == s.2.2.2.1 &&
      g.2.2.2.2.2.1 == s.2.2.2.2.1 && g.2.2.2.2.2.2.1 == s.2.2.2.2.2.1 && g.2.2.2.2.2.2.2.1 == s.2.2.2.2.2.2.1 &&
      g.2.2.2.2.2.2.2.2.1 == s.2.2.2.2.2.2.2) = true := by decide +kernel

/-- the interface file asserts `var _ Querier = (*Queries)(nil)` -/
theorem querier_assertion : Gen.templateHasQuerierAssertion = true := rfl

/-- O2: accepted commands are exactly the five documented ones; RETURNING is required for exactly
`:one` and `:many`; comment syntaxes per engine -/
theorem commands_documented : Gen.cmdAccepted = Spec.commands ∧ Gen.cmdConstants = Spec.commands ∧
    Gen.cmdNeedsReturning = Spec.needsReturning := ⟨rfl, rfl, rfl⟩

theorem comment_syntax_documented :
    Gen.commentSyntax = [("postgresql", true, false, true), ("mysql", true, true, true), ("sqlite", true, false, false)] := rfl

/-- soundness of the annotation parser: whatever text it accepts, the command is one of the five and
the name is an identifier -/
theorem parseLine_sound (line name cmd : Bytes) (h : parseLine line = .ok name cmd) :
    cmd ∈ cmdsB ∧ validQueryName name = true := by
  -- every exit of `parseLine` before the last is an error
  obtain ⟨-, h⟩ := else_of_ite_eq h nofun
  obtain ⟨-, h⟩ := else_of_ite_eq h nofun
  obtain ⟨h3, h⟩ := else_of_ite_eq h nofun
  obtain ⟨h4, h⟩ := else_of_ite_eq h nofun
  cases h
  simp only [Bool.not_eq_true', Bool.not_eq_false, List.contains_iff_mem] at h3 h4
  exact ⟨h3, h4⟩

/-- the first line that is a comment of an enabled style and carries the `name:` prefix decides -/
theorem parseLines_eq_find (cs : CommentSyntax) (ls : List Bytes) :
    parseLines cs ls = match ls.find? (fun l => (annotationPrefix cs l).isSome) with
      | some l => parseLine l
      | none => .none := by
  induction ls with
  | nil => rfl
  | cons l ls ih =>
    rw [parseLines, List.find?_cons]
    cases annotationPrefix cs l <;> simp [ih]

theorem parse_sound (t name cmd : Bytes) (cs : CommentSyntax) (h : metaParse t cs = .ok name cmd) :
    cmd ∈ cmdsB ∧ validQueryName name = true := by
  rw [metaParse, parseLines_eq_find] at h
  split at h
  · exact parseLine_sound _ name cmd h
  · cases h

/-- statements without an annotation line yield no method (Parse returns the empty name) -/
theorem no_annotation_none (t : Bytes) (cs : CommentSyntax)
    (h : ∀ l ∈ splitNL t, annotationPrefix cs l = none) : metaParse t cs = .none := by
  rw [metaParse, parseLines_eq_find, List.find?_eq_none.mpr fun l hl => by simp [h l hl]]

/-- every command's text is free of white space, so `TrimSpace` leaves it alone (used below) -/
theorem cmds_no_space : cmdsB.all (fun c => c.all (fun b => !isAsciiSpace b) && !c.isEmpty) = true := by decide +kernel

/-- non-vacuity and the canonical forms: the three comment styles -/
example : metaParse (b! "-- name: GetAuthor :one") ⟨true, false, true⟩ = .ok (b! "GetAuthor") (b! ":one") := by decide +kernel
example : metaParse (b! "/* name: List_2 :many */") ⟨true, false, true⟩ = .ok (b! "List_2") (b! ":many") := by decide +kernel
example : metaParse (b! "# name: Del :execrows") ⟨true, true, true⟩ = .ok (b! "Del") (b! ":execrows") := by decide +kernel
example : metaParse (b! "# name: Del :execrows") ⟨true, false, true⟩ = .none := by decide +kernel
example : metaParse (b! "-- name: 9x :one") ⟨true, false, true⟩ = .err .invalidName := by decide +kernel
example : metaParse (b! "-- name: X :lots") ⟨true, false, true⟩ = .err .invalidType := by decide +kernel
example : metaParse (b! "-- name:") ⟨true, false, true⟩ = .err .missingType := by decide +kernel
example : metaParse (b! "-- name: X") ⟨true, false, true⟩ = .err .invalidComment := by decide +kernel
example : metaParse (b! "-- name: X :one extra") ⟨true, false, true⟩ = .err .invalidComment := by decide +kernel

/-! ### duplicate names -/

/-- what the name check has done when the loop ends: `seen` is the non-empty names accepted, each once, and
every statement was either accepted or counted -/
theorem nameFold_spec (names : List String) :
    (nameFold names).accepted.filter (· != "") = (nameFold names).seen ∧ (nameFold names).seen.Nodup ∧
      (nameFold names).accepted.length + (nameFold names).dupErrors = names.length := by
  refine foldl_prefix_induction (fun pre (st : NameFold) =>
    st.accepted.filter (· != "") = st.seen ∧ st.seen.Nodup ∧ st.accepted.length + st.dupErrors = pre.length)
    nameStep ?_ names [] {} ⟨rfl, List.nodup_nil, rfl⟩
  intro pre st n ⟨ha, hd, hl⟩
  unfold nameStep
  split
  next hn =>
    split
    next hs => exact ⟨ha, hd, by simp; omega⟩
    next hs => exact ⟨by simp [List.filter_append, ha, hn], nodup_concat.mpr ⟨by simpa using hs, hd⟩, by simp; omega⟩
  next hn => exact ⟨by simpa [List.filter_append, hn] using ha, hd, by simp; omega⟩

/-- C11 (duplicate names): whatever the list of annotated statements, the queries that survive the
name check have pairwise distinct names -/
theorem names_nodup (names : List String) : ((nameFold names).accepted.filter (· != "")).Nodup := by
  rw [(nameFold_spec names).1]
  exact (nameFold_spec names).2.1

/-- and a repeated name is reported (not silently dropped): each statement is either accepted or
counted as a duplicate -/
theorem names_accounted (names : List String) :
    (nameFold names).accepted.length + (nameFold names).dupErrors = names.length :=
  (nameFold_spec names).2.2

/-- RETURNING is demanded exactly for :one/:many on data-modifying statements -/
theorem returning_required (cmd : String) (k : StmtKind) (ret : Bool) :
    validateCmd Gen.cmdNeedsReturning cmd k ret = false ↔
      ((cmd = ":one" ∨ cmd = ":many") ∧ (k = .insert ∨ k = .update ∨ k = .delete) ∧ ret = false) := by
  have hc : Gen.cmdNeedsReturning.contains cmd = decide (cmd = ":one" ∨ cmd = ":many") := by
    simp [Gen.cmdNeedsReturning, or_comm]
  unfold validateCmd
  rw [hc]
  by_cases h : cmd = ":one" ∨ cmd = ":many"
  · cases k <;> simp [h]
  · simp [h]

theorem translator_complete : Gen.untranslatable = [] := rfl

end Sqlc.C11
