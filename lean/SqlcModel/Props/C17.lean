import SqlcModel.Text.Source
import SqlcModel.Gen.Untranslatable
import SqlcModel.Gen.DriverFacts
/-
C17 — Diagnostics name a line inside the statement (the `source.LineNumber` part).

`LineNumber(src, head)` walks the runes of the file; the theorems characterise what it returns for
EVERY file and EVERY offset: it stops at the first rune at or after byte offset `head` that is neither
white space nor inside a `--` comment, reports that rune's line (1 + number of newlines before it)
and a column ≥ 1, and never reports a position before `head`. Multi-byte characters anywhere in the
file do not matter (this is what the `fix:` commit 2c33658 repaired; the pinned tree compared the
rune count with the byte offset).

The FILE a diagnostic names: `printFileErr` is read off the source by the translator (`C17_name_site`) and
`C17_names_the_file` / `C17_component_boundary` show the printed name is the file's path or its path relative
to the configuration directory, cut only at a path-component boundary — for every directory and every path.
The correspondence stream places the configuration and the query files in ten different layouts (queries
below the configuration directory, in siblings whose names extend the directory's name, in dot-directories).
-/
namespace Sqlc.C17
open Sqlc

/-- the loop state after each rune: (byte index, rune, state after the iteration's bookkeeping) -/
def states (src : Bytes) : List (Nat × Nat) → LnState → List (Nat × Nat × LnState)
  | [], _ => []
  | (i, r) :: rest, st =>
    let st' := lnStep src st i r
    (i, r, st') :: states src rest st'

def significant (head : Nat) (x : Nat × Nat × LnState) : Bool :=
  !(x.1 < head) && !isSpaceRune x.2.1 && !x.2.2.comment

def finalState (src : Bytes) : List (Nat × Nat) → LnState → LnState
  | [], st => st
  | (i, r) :: rest, st => finalState src rest (lnStep src st i r)

/-- one round of the loop: stop at a significant rune, go on otherwise -/
theorem lnLoop_cons (src : Bytes) (head i r : Nat) (rest : List (Nat × Nat)) (st : LnState) :
    lnLoop src head ((i, r) :: rest) st =
      if significant head (i, r, lnStep src st i r) then ((lnStep src st i r).line + 1, (lnStep src st i r).col)
      else lnLoop src head rest (lnStep src st i r) := by
  simp only [lnLoop, significant]
  by_cases h1 : i < head <;> by_cases h2 : isSpaceRune r = true <;>
    by_cases h3 : (lnStep src st i r).comment = true <;> simp [h1, h2, h3]

/-- T1: the loop is "find the first significant rune" -/
theorem lnLoop_eq_find (src : Bytes) (head : Nat) : ∀ (rs : List (Nat × Nat)) (st : LnState),
    lnLoop src head rs st =
      match (states src rs st).find? (significant head) with
      | some x => (x.2.2.line + 1, x.2.2.col)
      | none => ((finalState src rs st).line + 1, (finalState src rs st).col) := by
  intro rs
  induction rs with
  | nil => exact fun _ => rfl
  | cons p rest ih =>
    intro st
    rw [lnLoop_cons, states, List.find?_cons, finalState, ih]
    cases significant head (p.1, p.2, lnStep src st p.1 p.2) <;> rfl

theorem significant_iff (head : Nat) (x : Nat × Nat × LnState) :
    significant head x = true ↔ head ≤ x.1 ∧ isSpaceRune x.2.1 = false ∧ x.2.2.comment = false := by
  simp [significant, and_assoc]

/-- only a newline resets the column -/
theorem lnStep_col_pos (src : Bytes) (st : LnState) (i r : Nat) (h : isSpaceRune r = false) :
    1 ≤ (lnStep src st i r).col := by
  unfold lnStep
  split
  next hr => exact absurd (eq_of_beq hr ▸ h) (by decide)
  next => exact Nat.le_add_left 1 _

/-- T2: a rune that is no white space has a column of at least 1 -/
theorem states_col_pos (src : Bytes) (rs : List (Nat × Nat)) (st : LnState) (x : Nat × Nat × LnState)
    (h : x ∈ states src rs st) (hs : isSpaceRune x.2.1 = false) : 1 ≤ x.2.2.col := by
  induction rs generalizing st with
  | nil => cases h
  | cons p rest ih =>
    rcases List.mem_cons.mp h with rfl | h
    · exact lnStep_col_pos src st _ _ hs
    · exact ih _ h

/-- C17 (column): whenever LineNumber stops at a rune, the column it reports is ≥ 1 -/
theorem C17_col_pos (src : Bytes) (head : Nat) (x : Nat × Nat × LnState)
    (h : (states src (runes src) ⟨0, 0, false⟩).find? (significant head) = some x) :
    lineNumber src head = (x.2.2.line + 1, x.2.2.col) ∧ 1 ≤ x.2.2.col ∧ head ≤ x.1 := by
  have hx := (significant_iff head x).mp (List.find?_some h)
  refine ⟨?_, states_col_pos src _ _ x (List.mem_of_find?_eq_some h) hx.2.1, hx.1⟩
  unfold lineNumber
  rw [lnLoop_eq_find, h]

/-- number of newline runes in a rune list -/
def nlCount (rs : List (Nat × Nat)) : Nat := (rs.filter (fun p => p.2 == NLr)).length

theorem nlCount_append (a b : List (Nat × Nat)) : nlCount (a ++ b) = nlCount a + nlCount b := by
  simp [nlCount]

theorem lnStep_line (src : Bytes) (st : LnState) (i r : Nat) :
    (lnStep src st i r).line = st.line + nlCount [(i, r)] := by
  unfold lnStep nlCount
  split <;> simp [*]

/-- T3: the line of the state after a prefix of the runes is the number of newlines in that prefix -/
theorem states_line (src : Bytes) : ∀ (pre : List (Nat × Nat)) (i r : Nat) (post : List (Nat × Nat)) (st : LnState),
    ∃ st', (states src (pre ++ (i, r) :: post) st)[pre.length]? = some (i, r, st') ∧
      st'.line = st.line + nlCount (pre ++ [(i, r)]) := by
  intro pre i r post
  induction pre with
  | nil => exact fun st => ⟨lnStep src st i r, rfl, lnStep_line src st i r⟩
  | cons p pre ih =>
    intro st
    obtain ⟨st', h1, h2⟩ := ih (lnStep src st p.1 p.2)
    refine ⟨st', h1, ?_⟩
    rw [h2, lnStep_line, Nat.add_assoc, ← nlCount_append]
    rfl

/-- non-vacuity / regression: a multi-byte character before the statement does not move the line
(on the pinned tree this evaluated to line 3, column 0) -/
example : lineNumber (b! "-- é é é é é é\nSELECT nope FROM t;\n") 21 = (2, 1) := by decide

/-! ### which file a diagnostic names -/

/-- `strings.TrimPrefix(file, dir + "/")` -/
def displayName (dir file : List Char) : List Char :=
  if (dir ++ ['/']).isPrefixOf file then file.drop (dir.length + 1) else file

/-- the code IS that expression, and the printed line is `name:line:col: message` of the same FileError -/
theorem C17_name_site :
    Gen.printFileErrName = "filename := strings.TrimPrefix(fileErr.Filename, dir + \"/\")" ∧
    Gen.printFileErrFormat = "\"%s:%d:%d: %s\\n\"" ∧
    Gen.printFileErrArgs = "filename, fileErr.Line, fileErr.Column, fileErr.Err" := ⟨rfl, rfl, rfl⟩

/-- the name is left alone, or a whole leading path component equal to the directory is cut off -/
theorem displayName_cases (dir file : List Char) :
    displayName dir file = file ∨ ∃ rest, file = dir ++ '/' :: rest ∧ displayName dir file = rest := by
  unfold displayName
  split
  next h =>
    obtain ⟨t, rfl⟩ := List.isPrefixOf_iff_prefix.mp h
    refine .inr ⟨t, List.append_assoc .., ?_⟩
    rw [← List.length_singleton (a := '/'), ← List.length_append, List.drop_left]
  next => exact .inl rfl

/-- **C17 (file).** Whatever the configuration directory and wherever the query file lives, the printed name
is the file's own path or that path relative to the configuration directory: joining it back gives the file.
A prefix that is not cut at a path separator (`db` / `db_queries/a.sql`) is never removed. -/
theorem C17_names_the_file (dir file : List Char) :
    displayName dir file = file ∨ dir ++ '/' :: displayName dir file = file :=
  (displayName_cases dir file).imp_right fun ⟨_, hf, hd⟩ => hd ▸ hf.symm

/-- only a whole leading path component equal to the directory is removed -/
theorem C17_component_boundary (dir file : List Char) (h : displayName dir file ≠ file) :
    ∃ rest, file = dir ++ '/' :: rest ∧ displayName dir file = rest :=
  (displayName_cases dir file).resolve_left h

example : displayName "db".toList "db_queries/a.sql".toList = "db_queries/a.sql".toList ∧
    displayName "db".toList "db/q/a.sql".toList = "q/a.sql".toList := by decide +kernel

theorem translator_complete : Gen.untranslatable = [] := rfl

end Sqlc.C17
