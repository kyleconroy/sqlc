import SqlcModel.Query.Analyze
import SqlcModel.Lemmas.GoGen
import SqlcModel.Props.C02
import SqlcModel.Gen.Untranslatable
/-
C05 — Result types track the schema column they come from.

Proved on the model:

* `C05_convert_attrs` — QueryCatalog.GetTable / ConvertColumn copy type, nullability, array-ness, length
  and table of the catalog column;
* `C05_ref_attrs` — a plain reference (directly, through an alias, a join side) that is accepted is a copy
  of exactly one column of a relation in scope with that name: same data type, nullability, array-ness,
  table;
* `C05_star_attrs` — every column a star contributes is such a copy, in from-clause / declaration order;
* `C05_reuse_sound` — a model struct is returned only when its fields equal the query's columns in name,
  Go type and order and every column comes from the struct's table; `C05_reuse_complete` — and it IS
  returned when they do (first such struct); `C05_fresh_types` — otherwise the fresh Row struct's field
  types are goType of the columns, in order.

With C09 (goType is a function of data type, nullability, array-ness, length, table/column overrides and the
catalog's enum list) these give: equal attributes ⇒ equal Go type, whatever path the reference took.

The full statement is FALSE of the unchanged code in one respect, proved here as `C05_length_dropped`:
references and stars do not copy `Length`, which goType consults for MySQL tinyint(1) (finding
`lengthDropped`, frozen by the golden data_type_boolean/mysql).
-/
namespace Sqlc.C05
open Sqlc Sqlc.Q Sqlc.GoGen

theorem C05_convert_attrs (rel : Q.TableName) (cc : CatCol) :
    (convertColumn rel cc).dataType = dataTypeOf cc.tschema cc.tname ∧
    (convertColumn rel cc).notNull = cc.notNull ∧ (convertColumn rel cc).isArray = cc.isArray ∧
    (convertColumn rel cc).length = cc.length ∧ (convertColumn rel cc).table = some rel ∧
    (convertColumn rel cc).name = cc.name := by
  unfold convertColumn; simp

/-- an accepted plain reference is a copy of exactly one same-named column of a relation in scope -/
theorem C05_ref_attrs (res : Node) (tables : List Table) (node : Node) (c : Q.Column)
    (h : outputColumnRefs res tables node = .ok [c]) :
    ∃ alias name, refParts node = some (alias, name) ∧
      ∃ t ∈ tables, ∃ c0 ∈ t.columns, c0.name = name ∧ (alias = "" ∨ t.rel.name = alias) ∧
        c.dataType = c0.dataType ∧ c.notNull = c0.notNull ∧ c.isArray = c0.isArray ∧ c.table = c0.table := by
  obtain ⟨alias, name, hp, hc, _⟩ := C02.ref_ok res tables node [c] h
  obtain ⟨t, ht, c0, hc0, hn, ha, rfl⟩ := C02.mem_refMatches _ _ _ _ c (hc ▸ List.mem_singleton_self c)
  exact ⟨alias, name, hp, t, ht, c0, hc0, hn, ha, rfl, rfl, rfl, rfl⟩

/-- every column a star contributes copies type, nullability, array-ness and table of its source column,
and the sources are the columns of the relations in scope in from-clause / declaration order -/
theorem C05_star_attrs (tables : List Table) (scope : String) (rn : Option String) :
    (starColumns tables scope rn).map (fun c => (c.dataType, c.notNull, c.isArray, c.table)) =
    (C02.starSources tables scope).map (fun tc => (tc.2.dataType, tc.2.notNull, tc.2.isArray, tc.2.table)) := by
  rw [(C02.C02_star_same_source "" tables scope rn).1]
  simp [List.map_map, Function.comp_def]

/-- the defect, exactly: neither path copies `Length` -/
theorem C05_length_dropped (tables : List Table) (scope : String) (rn : Option String) (alias name : String) :
    (∀ c ∈ starColumns tables scope rn, c.length = none) ∧ (∀ c ∈ refMatches rn tables alias name, c.length = none) := by
  constructor
  · intro c hc
    rw [(C02.C02_star_same_source "" tables scope rn).1, List.mem_map] at hc
    obtain ⟨_, _, rfl⟩ := hc
    rfl
  · intro c hc
    obtain ⟨_, _, _, _, _, _, rfl⟩ := C02.mem_refMatches _ _ _ _ _ hc
    rfl

/-! ### returning a model struct -/

def expectField (env : TypeEnv) (c : Q.Column) (i : Nat) : String × String :=
  (structName env.rename (columnName c.name i), goType env (toTypeColumn c))

/-- the per-position test of buildQueries on a struct with as many fields as there are columns -/
theorem all_zip_fields (env : TypeEnv) (tbl : FQN) (fs : List Field) (cs : List Q.Column) (k : Nat)
    (hl : fs.length = cs.length) :
    (((fs.zip cs).zipIdx k).all (fun (fc, i) =>
      fc.1.name == structName env.rename (columnName fc.2.name i) &&
      fc.1.type == goType env (toTypeColumn fc.2) &&
      sameTableName ((toTypeColumn fc.2).table) tbl env.defaultSchema)) = true ↔
    (fs.map (fun f => (f.name, f.type)) = (cs.zipIdx k).map (fun (c, i) => expectField env c i) ∧
     ∀ c ∈ cs, sameTableName ((toTypeColumn c).table) tbl env.defaultSchema = true) := by
  induction fs generalizing cs k with
  | nil =>
    cases cs with
    | nil => simp
    | cons _ _ => simp at hl
  | cons f fs ih =>
    cases cs with
    | nil => simp at hl
    | cons c cs =>
      simp only [List.zip_cons_cons, List.zipIdx_cons, List.all_cons, Bool.and_eq_true, beq_iff_eq,
        ih cs (k + 1) (by simpa using hl), List.map_cons, List.cons.injEq, Prod.mk.injEq, expectField, List.mem_cons,
        forall_eq_or_imp]
      exact and_and_and_comm

/-- the reuse test, characterised: it passes exactly when the struct's fields are the query's columns in
name, Go type and order, and every column belongs to the struct's table -/
theorem C05_reuse_iff (env : TypeEnv) (s : Struct) (cols : List Q.Column) :
    reuseMatch env s cols = true ↔
      (s.fields.length = cols.length ∧
       s.fields.map (fun f => (f.name, f.type)) = (cols.zipIdx).map (fun (c, i) => expectField env c i) ∧
       ∀ c ∈ cols, sameTableName ((toTypeColumn c).table) s.table env.defaultSchema = true) := by
  unfold reuseMatch
  simp only [Bool.and_eq_true, beq_iff_eq]
  exact and_congr_right (all_zip_fields env s.table s.fields cols 0)

/-- with two or more columns, a model struct is what is returned exactly when it is the first that passes the test -/
theorem retOf_eq_struct_iff (env : TypeEnv) (structs : List Struct) (m : String) (cols : List Q.Column) (s : Struct)
    (h2 : cols.length ≥ 2) :
    retOf env structs m cols = { emit := false, name := "i", struct := some s } ↔
      structs.find? (fun s => reuseMatch env s cols) = some s := by
  match cols with
  | [] => simp at h2
  | [_] => simp at h2
  | c :: d :: rest =>
    unfold retOf
    simp only
    cases structs.find? (fun s => reuseMatch env s (c :: d :: rest)) with
    | some s' => simp
    | none => simp [retOfFresh]

/-- a model struct is returned only when the test passed: its fields equal the query's columns -/
theorem C05_reuse_sound (env : TypeEnv) (structs : List Struct) (m : String) (cols : List Q.Column) (s : Struct)
    (h2 : cols.length ≥ 2) (hr : retOf env structs m cols = { emit := false, name := "i", struct := some s }) :
    s ∈ structs ∧ s.fields.map (fun f => (f.name, f.type)) = (cols.zipIdx).map (fun (c, i) => expectField env c i) ∧
      ∀ c ∈ cols, sameTableName ((toTypeColumn c).table) s.table env.defaultSchema = true := by
  have hf := (retOf_eq_struct_iff env structs m cols s h2).mp hr
  have hm := List.find?_some (p := fun s => reuseMatch env s cols) hf
  exact ⟨List.mem_of_find?_eq_some hf, ((C05_reuse_iff env s cols).mp hm).2⟩

/-- … and when some model struct does equal the query's columns, a model struct is returned (the first
that passes), never a fresh Row struct -/
theorem C05_reuse_complete (env : TypeEnv) (structs : List Struct) (m : String) (cols : List Q.Column) (s : Struct)
    (h2 : cols.length ≥ 2) (hs : s ∈ structs) (hm : reuseMatch env s cols = true) :
    ∃ s', structs.find? (fun s => reuseMatch env s cols) = some s' ∧
      retOf env structs m cols = { emit := false, name := "i", struct := some s' } := by
  cases hf : structs.find? (fun s => reuseMatch env s cols) with
  | some s' => exact ⟨s', rfl, (retOf_eq_struct_iff env structs m cols s' h2).mpr hf⟩
  | none => exact absurd hm (by simpa using List.find?_eq_none.mp hf s hs)

/-- a fresh Row struct's field types are goType of the query's columns, in order -/
theorem C05_fresh_types (env : TypeEnv) (m : String) (c d : Q.Column) (rest : List Q.Column) :
    ((retOfFresh env m (c :: d :: rest)).struct.map (fun s => s.fields.map (·.type))) =
      some ((c :: d :: rest).map (fun c => goType env (toTypeColumn c))) := by
  simp only [retOfFresh, columnsToStruct, Option.map_some, c2sLoop_types, List.map_map]
  show some (List.map ((fun c => goType env (toTypeColumn c)) ∘ Prod.fst) _) = _
  rw [← List.map_map, List.zipIdx_map_fst]

/-! ### non-vacuity -/

/-- a tinyint(1) column of the catalog loses its length on the way to a result column -/
theorem witness_length_dropped :
    let cc : CatCol := { name := "active", tschema := "", tname := "tinyint", notNull := true, isArray := false, length := some 1 }
    let t : Table := { rel := { name := "foo" }, columns := [convertColumn { name := "foo" } cc] }
    (t.columns.map (·.length) = [some 1]) ∧ ((starColumns [t] "" none).map (·.length) = [none]) ∧
    ((refMatches none [t] "" "active").map (·.length) = [none]) := by decide +kernel

theorem translator_complete : Gen.untranslatable = [] := rfl

end Sqlc.C05
