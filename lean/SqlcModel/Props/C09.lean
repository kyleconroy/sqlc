import SqlcModel.Lemmas.GoGen
import SqlcModel.Spec.DocTypes
import SqlcModel.Gen.Untranslatable
/-
C09 — Every supported database type maps to its documented Go type.
The domain (type-switch arms × nullability × array-ness) is finite and is enumerated completely by
`decide` over the REGENERATED tables; the lift to `goType` for arbitrary columns is by the equation for
goType without overrides (`goType_pg_plain`).
-/
namespace Sqlc.C09
open Sqlc Sqlc.GoGen Sqlc.Spec

/-- O1: every spelling of every arm of postgresType is a documented name of a canonical type whose
documented Go types are exactly the arm's results. -/
theorem pg_arms_documented :
    Gen.pgTypeArms.all (fun arm => arm.1.all (fun sp =>
      match pgCanonOf sp with
      | some c => c.go == (arm.2.1, arm.2.2)
      | none => false)) = true := by decide +kernel

/-- O2: every documented name of every canonical type has an arm — except the listed known-missing
bare spellings. -/
theorem pg_names_covered :
    allCanon.all (fun c => (pgNames c).all (fun n =>
      pgKnownMissing.contains n || (lookupArm Gen.pgTypeArms n).isSome)) = true := by decide +kernel

/-- the hypothesis in O2 is forced on the pinned tree: witness -/
theorem pg_known_missing_witness :
    pgKnownMissing.all (fun n => (lookupArm Gen.pgTypeArms n).isNone && (pgCanonOf n).isSome) = true := by decide +kernel

theorem mysql_arms_documented :
    Gen.mysqlTypeArms.all (fun arm => arm.1.all (fun sp =>
      match myCanonOf sp with
      | some c => c.go == (arm.2.1, arm.2.2)
      | none => false)) = true := by decide +kernel

theorem mysql_names_covered :
    allMyCanon.all (fun c => (myNames c).all (fun n => (lookupArm Gen.mysqlTypeArms n).isSome)) = true := by decide +kernel

/-- tinyint(1) is boolean -/
theorem mysql_tinyint1_documented :
    Gen.mysqlTinyint1 = [(["tinyint"], (MyCanon.bool.go).1, (MyCanon.bool.go).2)] := rfl

theorem array_prefix_documented : Gen.arrayPrefix = "[]" := rfl

/-- lookup of a documented name returns the documented pair (lifts O1 from the table to `lookupArm`) -/
theorem lookup_documented (n : String) (r : String × String)
    (h : lookupArm Gen.pgTypeArms n = some r) : ∃ c, pgCanonOf n = some c ∧ c.go = r := by
  obtain ⟨arm, hmem, hn, rfl⟩ := lookupArm_some h
  have := List.all_eq_true.mp (List.all_eq_true.mp pg_arms_documented arm hmem) n hn
  split at this
  · exact ⟨_, ‹_›, by simpa using this⟩
  · cases this

/-- C09 (PostgreSQL, no overrides): for EVERY column whose type name has an arm, whatever its position
(model field, result column, parameter — all call `goType`), the Go type is the documented one:
slice of the NOT NULL element type for arrays, NOT NULL / nullable representation otherwise. -/
theorem C09_pg (env : TypeEnv) (col : Column) (r : String × String)
    (hpg : env.engine = "postgresql") (hov : env.overrides = [])
    (h : lookupArm Gen.pgTypeArms col.dataType = some r) :
    ∃ c, pgCanonOf col.dataType = some c ∧
      goType env col = docGoType c.go col.notNull col.isArray := by
  obtain ⟨c, hc, rfl⟩ := lookup_documented col.dataType r h
  refine ⟨c, hc, ?_⟩
  have : postgresType env col = pick c.go (col.notNull || col.isArray) := by simp only [postgresType, h]
  rw [goType_pg_plain env col hpg hov, this, array_prefix_documented]
  cases col.isArray <;> cases col.notNull <;> rfl

/-- aliases agree: two names of one canonical type always give the same Go type -/
theorem C09_aliases_agree (env : TypeEnv) (c1 c2 : Column) (r1 r2 : String × String)
    (hpg : env.engine = "postgresql") (hov : env.overrides = [])
    (h1 : lookupArm Gen.pgTypeArms c1.dataType = some r1)
    (h2 : lookupArm Gen.pgTypeArms c2.dataType = some r2)
    (hsame : pgCanonOf c1.dataType = pgCanonOf c2.dataType)
    (hnn : c1.notNull = c2.notNull) (har : c1.isArray = c2.isArray) :
    goType env c1 = goType env c2 := by
  obtain ⟨a, ha, hga⟩ := C09_pg env c1 r1 hpg hov h1
  obtain ⟨b, hb, hgb⟩ := C09_pg env c2 r2 hpg hov h2
  rw [ha, hb] at hsame
  cases hsame
  rw [hga, hgb, hnn, har]

/-- unknown types (no arm, no enum/composite of that name) map to interface{} -/
theorem C09_unknown (env : TypeEnv) (col : Column)
    (hpg : env.engine = "postgresql") (hov : env.overrides = [])
    (h : lookupArm Gen.pgTypeArms col.dataType = none)
    (hno : ∀ p, parseRel col.dataType = some p →
      pgFallbackTypes env.defaultSchema env.rename (if p.1 == "" then env.defaultSchema else p.1) p.2 (col.notNull || col.isArray) env.schemas = none) :
    goType env col = if col.isArray then "[]interface{}" else "interface{}" := by
  have : postgresType env col = "interface{}" := by
    simp only [postgresType, h]
    cases hp : parseRel col.dataType with
    | none => rfl
    | some p => simp only [hno p hp]; rfl
  rw [goType_pg_plain env col hpg hov, this, array_prefix_documented]
  rfl

/-- non-vacuity: a concrete column meets the hypotheses of C09_pg -/
example : lookupArm Gen.pgTypeArms "pg_catalog.int4" = some ("int32", "sql.NullInt32") := by decide +kernel

theorem translator_complete : Gen.untranslatable = [] := rfl

end Sqlc.C09
